import PnaVerif.Model.Bytes
import PnaVerif.Model.Crc32
import PnaVerif.Model.Chunk
import PnaVerif.Model.Name
import PnaVerif.Model.Codec
import PnaVerif.Model.Entry
import PnaVerif.Model.Solid
import PnaVerif.Model.Archive
import PnaVerif.Model.Canon
import PnaVerif.Model.Stream
import PnaVerif.Model.Cipher
import PnaVerif.Model.Toy
import PnaVerif.Model.Pipeline
import PnaVerif.Model.Split
import PnaVerif.Lemmas.ListFacts
import PnaVerif.Lemmas.Bytes
import PnaVerif.Lemmas.Crc32
import PnaVerif.Lemmas.Chunk
import PnaVerif.Lemmas.Codec
import PnaVerif.Lemmas.SplitJoin
import PnaVerif.Lemmas.Name
import PnaVerif.Lemmas.NoPanic
import PnaVerif.Lemmas.Flatten
import PnaVerif.Lemmas.Blocks
import PnaVerif.Lemmas.Ctr
import PnaVerif.Lemmas.CbcRef
import PnaVerif.Lemmas.CbcWriter
import PnaVerif.Lemmas.CbcReader
import PnaVerif.Lemmas.PipelineData
import PnaVerif.Lemmas.Toy
import PnaVerif.Lemmas.Outcome
import PnaVerif.Lemmas.StreamView
import PnaVerif.Lemmas.Split
import PnaVerif.Lemmas.EntryLoop
import PnaVerif.Lemmas.Reser
import PnaVerif.Lemmas.CliEdit
import PnaVerif.Lemmas.CliUpdate
import PnaVerif.Lemmas.SerShape
import PnaVerif.Lemmas.Grouping
import PnaVerif.Lemmas.ArchiveRt
import PnaVerif.Lemmas.EntryRt
import PnaVerif.Lemmas.Fs
import PnaVerif.Lemmas.Overwrite
import PnaVerif.Props.Consts
import PnaVerif.Props.C03
import PnaVerif.Props.C05
import PnaVerif.Props.C06
import PnaVerif.Props.C13
import PnaVerif.Props.C18
import PnaVerif.Props.C09
import PnaVerif.Props.C15
import PnaVerif.Props.C07
import PnaVerif.Props.C01
import PnaVerif.Props.C16
import PnaVerif.Props.C08
import PnaVerif.Props.C04
import PnaVerif.Props.C10
import PnaVerif.Props.C13Entry
import PnaVerif.Props.C17
import PnaVerif.Props.C11
import PnaVerif.Model.Fs
import PnaVerif.Props.C09Fs
import PnaVerif.Props.C14
import PnaVerif.Props.C06Archive
import PnaVerif.Model.Cli.Overwrite
import PnaVerif.Props.C20
import PnaVerif.Model.Cli.Create
import PnaVerif.Lemmas.Solid
import PnaVerif.Props.C07Solid
import PnaVerif.Model.Cli.Text
import PnaVerif.Props.C02
import PnaVerif.Model.Cli.Fault
import PnaVerif.Props.C12
import PnaVerif.Lemmas.CliText
import PnaVerif.Props.C15Cli
import PnaVerif.Model.Cli.Sched
import PnaVerif.Lemmas.Sched
import PnaVerif.Generated.Shapes
import PnaVerif.Props.C19
import PnaVerif.Model.Cli.PartName
import PnaVerif.Model.Cli.ModeText
import PnaVerif.Props.C10Mode
import PnaVerif.Lemmas.ConfinedInvariant
import PnaVerif.Lemmas.ConfinedStr
import PnaVerif.Lemmas.ConfinedOps
import PnaVerif.Lemmas.ExtractEntry
import PnaVerif.Lemmas.ConfinedExtract
import PnaVerif.Props.C09Confined
import PnaVerif.Lemmas.PartName
import PnaVerif.Props.C15Part
import PnaVerif.Lemmas.Create
import PnaVerif.Lemmas.ComposeTree
import PnaVerif.Lemmas.ComposeFresh
import PnaVerif.Lemmas.ComposeInv
import PnaVerif.Props.C02Compose
import PnaVerif.Lemmas.Capstone
import PnaVerif.Lemmas.CapstoneRt
import PnaVerif.Lemmas.CapstoneEx
import PnaVerif.Props.C01Archive
import PnaVerif.Model.Cli.ChunkList
import PnaVerif.Props.C18ChunkList
import PnaVerif.Model.Cli.Concat
import PnaVerif.Lemmas.Alter
import PnaVerif.Props.C05Archive
import PnaVerif.Lemmas.Recut
import PnaVerif.Props.C03Recut
import PnaVerif.Lemmas.Multipart
import PnaVerif.Props.C04Multipart
import PnaVerif.Props.C10Target
import PnaVerif.Lemmas.Sizes
import PnaVerif.Props.C18Entry
import PnaVerif.Props.C14Layout
import PnaVerif.Lemmas.SplitRead
import PnaVerif.Props.C04Read
import PnaVerif.Props.C01Multipart
import PnaVerif.Model.Cli.ExtractPerm
import PnaVerif.Lemmas.ExtractPerm
import PnaVerif.Props.C09Perm
import PnaVerif.Model.Cli.Acl
import PnaVerif.Lemmas.AclFast
import PnaVerif.Props.C10Acl
import PnaVerif.Lemmas.RawCopy
import PnaVerif.Props.C13Raw
import PnaVerif.Props.C10Bits
import PnaVerif.Lemmas.Acl
import PnaVerif.Props.C10AclIdem
import PnaVerif.Lemmas.WrongKey
import PnaVerif.Props.C16Key
import PnaVerif.Lemmas.AclSet
import PnaVerif.Props.C10AclSet
import PnaVerif.Model.Append
import PnaVerif.Lemmas.Append
import PnaVerif.Props.C11Append
