import PnaVerif.Lemmas.Name
import PnaVerif.Lemmas.Codec
/-!
# C09 — part 1: entry names are always reduced to safe relative paths
For every byte string given to an `EntryName` constructor, and for every FHED payload the
parser accepts: the resulting name has no root, and every component is a `Normal` one
(non-empty, not `.`, not `..`, without `/`); sanitising is idempotent.
Part 2 (file-system effects of extraction, symlink/hard-link escapes) is in `Props/C09Fs.lean`.
-/
namespace Pna.C09
open Pna

theorem sanitize_safe (s : Bytes) :
    (sanitize s).head? ≠ some slash ∧
    (sanitize s = [] ∨ ∀ c ∈ splitSlash (sanitize s), c ≠ [] ∧ c ≠ [dot] ∧ c ≠ [dot, dot] ∧ slash ∉ c) := by
  refine ⟨sanitize_no_root s, ?_⟩
  rcases sanitize_components s with h | ⟨_, h⟩
  · exact Or.inl h
  · exact Or.inr h

theorem sanitize_idempotent (s : Bytes) : sanitize (sanitize s) = sanitize s := sanitize_idem s

/-- The FHED parser returns sanitised names only. -/
theorem fhed_name_sanitized (bs : Bytes) (h : EntryHeader) (hd : decFHED bs = .ok h) :
    h.name = sanitize (bs.drop 6) := by
  obtain ⟨_, _, _, _, _, _, name, rfl, -, -, -, -, -, rfl⟩ := decFHED_ok hd
  rfl

theorem fhed_name_safe (bs : Bytes) (h : EntryHeader) (hd : decFHED bs = .ok h) :
    h.name.head? ≠ some slash ∧
    (h.name = [] ∨ ∀ c ∈ splitSlash h.name, c ≠ [] ∧ c ≠ [dot] ∧ c ≠ [dot, dot] ∧ slash ∉ c) := by
  rw [fhed_name_sanitized bs h hd]; exact sanitize_safe _

-- "/../a/./b//" ↦ "a/b"
example : sanitize [47, 46, 46, 47, 97, 47, 46, 47, 98, 47, 47] = [97, 47, 98] := by decide

end Pna.C09
