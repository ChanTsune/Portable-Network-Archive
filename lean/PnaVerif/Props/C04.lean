import PnaVerif.Lemmas.Multipart
/-!
# C04 — splitting respects the size limit, loses nothing, and terminates
For every archive (list of entries, each any chunk list) and every maximum size:
* `never_panics` — no endless loop: the model's only panic is `"fuel"` (`splitRest`), so this says that the fuel
  bound suffices.  That `max_file_size - written_entry_size` does not underflow is not this theorem but the
  invariant `AccInv.written_le` (`Lemmas/Split.lean`);
* `parts_le_max` — every part file produced is at most `maxFile` bytes, the 52 bytes of
  signature/AHED/ANXT/AEND included;
* `nothing_lost` — the concatenated part bodies are the original chunk sequence up to the cutting
  of data chunks (`streamView`), in order;
* `accepts_every_feasible_max` / `rejects_only_infeasible` — success whenever the maximum can hold the fixed
  overhead and every indivisible chunk (plus one payload byte of a data chunk); a failure is `InvalidInput` and
  occurs only when it cannot;
* `entry_part_split` — library level: `EntryPart::split` for all chunk lists and all `max_bytes_len`.
Well-formedness of each part file is `C14.part_files_wellformed`, the re-read of the sequence in
`Props/C04Multipart.lean` and `Props/C04Read.lean`.
-/
namespace Pna.C04
open Pna

theorem never_panics (entries : List (List Chunk)) (maxFile : Nat) (s : String) :
    writeSplit entries maxFile ≠ .panic s := (writeSplit_spec entries maxFile).no_panic s

theorem parts_le_max (entries : List (List Chunk)) (maxFile : Nat) (bodies : List (List Chunk))
    (h : writeSplit entries maxFile = .ok bodies) (i : Nat) (hi : i < bodies.length) :
    (encodePartFile i bodies.length bodies[i]).length ≤ maxFile := by
  have hb := (writeSplit_ok_spec h).sizes bodies[i] (List.getElem_mem hi)
  rw [encodePartFile_length]
  split <;> omega

theorem nothing_lost (entries : List (List Chunk)) (maxFile : Nat) (bodies : List (List Chunk))
    (h : writeSplit entries maxFile = .ok bodies) : streamView bodies.flatten = streamView entries.flatten :=
  (writeSplit_ok_spec h).cut.1

theorem accepts_every_feasible_max (entries : List (List Chunk)) (maxFile : Nat) (h1 : splitOverhead ≤ maxFile)
    (hm : MinOk (maxFile - splitOverhead) entries.flatten) : ∃ bodies, writeSplit entries maxFile = .ok bodies := by
  obtain ⟨bodies, h, _⟩ := (writeSplit_spec entries maxFile).exists_ok
    fun e he => he.2.elim (fun hlt => by omega) fun hn => hn hm
  exact ⟨bodies, h⟩

theorem rejects_only_infeasible (entries : List (List Chunk)) (maxFile : Nat) (e : Err)
    (h : writeSplit entries maxFile = .error e) :
    e = .invalidInput ∧ (maxFile < splitOverhead ∨ ¬ MinOk (maxFile - splitOverhead) entries.flatten) :=
  (writeSplit_spec entries maxFile).of_error h

/-- `EntryPart::split`: first part within the limit, nothing lost, for all inputs. -/
theorem entry_part_split (cs : List Chunk) (max : Nat) :
    partLen (splitPart cs max).1 ≤ max ∧
    streamView ((splitPart cs max).1 ++ ((splitPart cs max).2.getD [])) = streamView cs ∧
    ((splitPart cs max).2 = none ↔ partLen cs ≤ max) := by
  rcases splitPart_spec cs max with ⟨hle, hs⟩ | ⟨hgt, w, rem, hs, hw, hc, _⟩ <;> rw [hs]
  · exact ⟨hle, by simp, by simp [hle]⟩
  · refine ⟨hw, hc.1, ?_⟩
    simp
    omega

theorem overhead_is_52 : splitOverhead = 52 := by decide

-- a 3-chunk entry of 83 bytes, maximum 100 (48 bytes of body per part): accepted
example : (writeSplit [[⟨ChunkType.FHED, [0,0,0,0,0,0,97]⟩, ⟨ChunkType.FDAT, List.replicate 40 7⟩, ⟨ChunkType.FEND, []⟩]] 100).isOk = true := by
  decide +kernel
example : writeSplit [[⟨ChunkType.FHED, List.replicate 30 0⟩]] 60 = .error .invalidInput := by decide +kernel
example : writeSplit [] 51 = .error .invalidInput := by decide +kernel

end Pna.C04
