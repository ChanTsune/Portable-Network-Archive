import PnaVerif.Model.Cli.Edit
/-!
# C10 (chmod, bit level) — a symbolic clause names only the bits it names

`Mode.applyTo` (`Model/Cli/Edit.lean`) on a clause `[ugo]*[=+-][rwx]*`: target set `t` (u = 1, g = 2, o = 4),
permission `p < 8`.

* `targetApply_lt`              (B1) the mask of a clause lies within the nine permission bits;
* `plus_keeps_other_bits`, `minus_keeps_other_bits`, `equal_keeps_other_bits_partial`,
  `symbolic_keeps_other_bits_partial`   (B2) the bits from 9 up (set-user-ID, set-group-ID, sticky, file type) are
                                untouched; for `=` and `-` on a 16-bit mode (`x < 65536`), for `+` on any `x`;
                                `equal_keeps_other_bits_false`: `=` on `x = 65536` (not a u16) clears bit 16 — the
                                statement "for any x" is false for `=`;
                                `legacy_equal_cleared_high_bits`: before the `fix:` `=` cleared them;
* `equal_sets_named_classes`    (B3) `=` sets exactly the named classes to exactly `p`, the others keep their bits;
* `plus_minus_exact`            (B4) `+` is `x ||| mask`, `-` removes exactly the bits of the mask.
-/
namespace Pna.C10B
open Pna Pna.Cli

theorem targetApply_one (p : Nat) : targetApply 1 p = p <<< 6 := by simp [targetApply]
theorem targetApply_two (p : Nat) : targetApply 2 p = p <<< 3 := by simp [targetApply]
theorem targetApply_four (p : Nat) : targetApply 4 p = p := by simp [targetApply]

theorem and_and_self (x a : Nat) : (x &&& a) &&& a = x &&& a := by
  rw [Nat.and_assoc, Nat.and_self]

/-- a value within the mask `k` has no bit in a mask disjoint from `k` -/
theorem and_of_within {v k k' : Nat} (hv : v &&& k = v) (hk : k &&& k' = 0) : v &&& k' = 0 := by
  rw [← hv, Nat.and_assoc, hk, Nat.and_zero]

theorem ite_within (c : Prop) [Decidable c] {a b k : Nat} (ha : a &&& k = a) (hb : b &&& k = b) :
    (if c then a else b) &&& k = if c then a else b := by
  split
  · exact ha
  · exact hb

theorem class_within : ∀ p, p < 8 → (p <<< 6) &&& 0o700 = p <<< 6 ∧ (p <<< 3) &&& 0o070 = p <<< 3 ∧ p &&& 0o007 = p := by
  decide

/-- **(B1)** the mask of a clause with `p < 8` lies within the nine permission bits, for every target set -/
theorem targetApply_lt (t p : Nat) (hp : p < 8) : targetApply t p < 512 := by
  unfold targetApply
  refine Nat.or_lt_two_pow (n := 9) (Nat.or_lt_two_pow ?_ ?_) ?_
  · split
    · rw [Nat.shiftLeft_eq]
      omega
    · decide
  · split
    · rw [Nat.shiftLeft_eq]
      omega
    · decide
  · split
    · omega
    · decide

example : targetApply 7 7 = 0o777 ∧ targetApply 5 6 = 0o606 ∧ targetApply 255 7 = 0o777 := by decide
-- `p < 8` is needed: a "permission" 8 reaches bit 9
example : ¬ targetApply 1 8 < 512 := by decide

/-- a class term of `=` (the clause's bits, or the field of `x`) lies within the nine permission bits -/
theorem ite_shr9 (c : Prop) [Decidable c] (b x m : Nat) (hb : b < 512) (hm : m < 512) :
    (if c then b else x &&& m) >>> 9 = 0 := by
  split
  · exact Nat.shiftRight_eq_zero _ 9 hb
  · exact Nat.shiftRight_eq_zero _ 9 (Nat.lt_of_le_of_lt Nat.and_le_right hm)

/-- **(B2, `+`)** for any mode value: the bits from 9 up are untouched -/
theorem plus_keeps_other_bits (t p x : Nat) (hp : p < 8) : ((Mode.plus t p).applyTo x) >>> 9 = x >>> 9 := by
  show (x ||| targetApply t p) >>> 9 = x >>> 9
  rw [Nat.shiftRight_or_distrib, Nat.shiftRight_eq_zero _ 9 (targetApply_lt t p hp), Nat.or_zero]

/-- on a 16-bit value, a mask with all of the bits 9 to 15 leaves the bits from 9 up as they are -/
theorem and_shr9 (x m : Nat) (hm : m >>> 9 = 2 ^ 7 - 1) (hx : x < 65536) : (x &&& m) >>> 9 = x >>> 9 := by
  have h2 : x >>> 9 < 2 ^ 7 := by
    rw [Nat.shiftRight_eq_div_pow]
    omega
  rw [Nat.shiftRight_and_distrib, hm, Nat.and_two_pow_sub_one_eq_mod, Nat.mod_eq_of_lt h2]

/-- **(B2, `=`)** for a 16-bit mode value: the bits from 9 up are untouched.  (`_partial`: the hypothesis
    `x < 65536` is needed, see `equal_keeps_other_bits_false`.) -/
theorem equal_keeps_other_bits_partial (t p x : Nat) (hp : p < 8) (hx : x < 65536) :
    ((Mode.equal t p).applyTo x) >>> 9 = x >>> 9 := by
  rw [Mode.applyTo, Nat.shiftRight_or_distrib, Nat.shiftRight_or_distrib, Nat.shiftRight_or_distrib,
    ite_shr9 _ _ _ _ (targetApply_lt 1 p hp) (by decide), ite_shr9 _ _ _ _ (targetApply_lt 2 p hp) (by decide),
    ite_shr9 _ _ _ _ (targetApply_lt 4 p hp) (by decide), and_shr9 x _ (by decide) hx]
  simp

/-- the statement of (B2) for `=` and ANY `x` is false: the model's `=` keeps only 16 bits (`x &&& 0xFE00`), so on a
    value that is not a u16 it clears bit 16 and up.  (The Rust mode is a `u16`; `+` has no such truncation.) -/
theorem equal_keeps_other_bits_false :
    ¬ ∀ t p x : Nat, p < 8 → ((Mode.equal t p).applyTo x) >>> 9 = x >>> 9 := by
  intro h
  exact absurd (h 0 0 65536 (by decide)) (by decide)

/-- **(B2, `-`)** for a 16-bit mode value: the bits from 9 up are untouched -/
theorem minus_keeps_other_bits (t p x : Nat) (hp : p < 8) (hx : x < 65536) :
    ((Mode.minus t p).applyTo x) >>> 9 = x >>> 9 := by
  show (x &&& (0xFFFF - targetApply t p)) >>> 9 = x >>> 9
  have ht := targetApply_lt t p hp
  refine and_shr9 x _ ?_ hx
  rw [Nat.shiftRight_eq_div_pow]
  omega

/-- **(B2)** the three symbolic clauses on a 16-bit mode value: set-user-ID, set-group-ID, sticky and the file-type
    bits are untouched.  (`_partial` because of `x < 65536`, which `=` and `-` need: `equal_keeps_other_bits_partial`,
    `minus_keeps_other_bits`; `+` needs no bound: `plus_keeps_other_bits`.) -/
theorem symbolic_keeps_other_bits_partial (t p x : Nat) (hp : p < 8) (hx : x < 65536) (m : Mode)
    (hm : m = .equal t p ∨ m = .plus t p ∨ m = .minus t p) : (m.applyTo x) >>> 9 = x >>> 9 := by
  rcases hm with rfl | rfl | rfl
  · exact equal_keeps_other_bits_partial t p x hp hx
  · exact plus_keeps_other_bits t p x hp
  · exact minus_keeps_other_bits t p x hp hx

/-- equivalently: every bit from 9 up agrees -/
theorem symbolic_keeps_other_bits_testBit (t p x : Nat) (hp : p < 8) (hx : x < 65536) (m : Mode)
    (hm : m = .equal t p ∨ m = .plus t p ∨ m = .minus t p) (i : Nat) (hi : 9 ≤ i) :
    (m.applyTo x).testBit i = x.testBit i := by
  have h := congrArg (fun y => y.testBit (i - 9)) (symbolic_keeps_other_bits_partial t p x hp hx m hm)
  simp only [Nat.testBit_shiftRight] at h
  rwa [show 9 + (i - 9) = i by omega] at h

/-- the shift form follows back from the bit form (the two are equivalent) -/
theorem shr9_of_testBit (a x : Nat) (h : ∀ i, 9 ≤ i → a.testBit i = x.testBit i) : a >>> 9 = x >>> 9 := by
  apply Nat.eq_of_testBit_eq
  intro j
  rw [Nat.testBit_shiftRight, Nat.testBit_shiftRight]
  exact h (9 + j) (by omega)

-- non-vacuity (B2): a regular file with set-user-ID and set-group-ID, `o=r`, `g+w`, `u-x`
example : (Mode.equal 4 4).applyTo 0o106755 = 0o106754 ∧ (Mode.plus 2 2).applyTo 0o106755 = 0o106775 ∧
    (Mode.minus 1 1).applyTo 0o106755 = 0o106655 := by decide
example := symbolic_keeps_other_bits_partial 4 4 0o106755 (by decide) (by decide) (.equal 4 4) (Or.inl rfl)
example := symbolic_keeps_other_bits_testBit 1 1 0o106755 (by decide) (by decide) (.minus 1 1) (Or.inr (Or.inr rfl))
  11 (by decide)
example := plus_keeps_other_bits 2 2 (0o106755 + 65536) (by decide)
example : (Mode.equal 4 4).applyTo 0o106755 >>> 9 = 0o106 := by decide

/-- `=` before the `fix:`: the result was assembled from the three class fields only -/
def applyToLegacyEqual (t p x : Nat) : Nat :=
  (if t &&& 1 ≠ 0 then targetApply 1 p else x &&& 0o700) ||| (if t &&& 2 ≠ 0 then targetApply 2 p else x &&& 0o070) |||
    (if t &&& 4 ≠ 0 then targetApply 4 p else x &&& 0o007)

/-- **legacy witness**: `chmod o=r` on a set-user-ID regular file `0o104755` gave `0o754` — set-user-ID and the file
    type gone; after the `fix:` `0o104754`. -/
theorem legacy_equal_cleared_high_bits :
    applyToLegacyEqual 4 4 0o104755 = 0o754 ∧ applyToLegacyEqual 4 4 0o104755 >>> 9 ≠ 0o104755 >>> 9 ∧
    (Mode.equal 4 4).applyTo 0o104755 = 0o104754 := by decide

theorem equal_applyTo (t p x : Nat) : (Mode.equal t p).applyTo x =
    (x &&& (0xFFFF - 0o777)) ||| (if t &&& 1 ≠ 0 then p <<< 6 else x &&& 0o700) |||
    (if t &&& 2 ≠ 0 then p <<< 3 else x &&& 0o070) ||| (if t &&& 4 ≠ 0 then p else x &&& 0o007) := by
  rw [Mode.applyTo, targetApply_one, targetApply_two, targetApply_four]

/-- the three class fields of the value of `=`, each as its own `if`: each of the four terms lies within its own mask,
    and the four masks are pairwise disjoint -/
theorem equal_fields (t p x : Nat) (hp : p < 8) :
    ((Mode.equal t p).applyTo x) &&& 0o700 = (if t &&& 1 ≠ 0 then p <<< 6 else x &&& 0o700) ∧
    ((Mode.equal t p).applyTo x) &&& 0o070 = (if t &&& 2 ≠ 0 then p <<< 3 else x &&& 0o070) ∧
    ((Mode.equal t p).applyTo x) &&& 0o007 = (if t &&& 4 ≠ 0 then p else x &&& 0o007) := by
  obtain ⟨h6, h3, h0⟩ := class_within p hp
  have hA := and_and_self x (0xFFFF - 0o777)
  have hU := ite_within (t &&& 1 ≠ 0) h6 (and_and_self x 0o700)
  have hG := ite_within (t &&& 2 ≠ 0) h3 (and_and_self x 0o070)
  have hO := ite_within (t &&& 4 ≠ 0) h0 (and_and_self x 0o007)
  simp only [equal_applyTo, Nat.and_or_distrib_right]
  refine ⟨?_, ?_, ?_⟩
  · rw [and_of_within hA (by decide), hU, and_of_within hG (by decide), and_of_within hO (by decide)]
    simp
  · rw [and_of_within hA (by decide), and_of_within hU (by decide), hG, and_of_within hO (by decide)]
    simp
  · rw [and_of_within hA (by decide), and_of_within hU (by decide), and_of_within hG (by decide), hO]
    simp

/-- **(B3)** `=` sets exactly the named classes — other (`t &&& 4`, bits `0o007`), group (`t &&& 2`, bits `0o070`),
    user (`t &&& 1`, bits `0o700`) — to exactly the named permissions and leaves the unnamed classes alone. -/
theorem equal_sets_named_classes (t p x : Nat) (hp : p < 8) :
    (t &&& 4 ≠ 0 → ((Mode.equal t p).applyTo x) &&& 0o007 = p) ∧
    (t &&& 4 = 0 → ((Mode.equal t p).applyTo x) &&& 0o007 = x &&& 0o007) ∧
    (t &&& 2 ≠ 0 → ((Mode.equal t p).applyTo x) &&& 0o070 = p <<< 3) ∧
    (t &&& 2 = 0 → ((Mode.equal t p).applyTo x) &&& 0o070 = x &&& 0o070) ∧
    (t &&& 1 ≠ 0 → ((Mode.equal t p).applyTo x) &&& 0o700 = p <<< 6) ∧
    (t &&& 1 = 0 → ((Mode.equal t p).applyTo x) &&& 0o700 = x &&& 0o700) := by
  obtain ⟨hu, hg, ho⟩ := equal_fields t p x hp
  refine ⟨fun h => ?_, fun h => ?_, fun h => ?_, fun h => ?_, fun h => ?_, fun h => ?_⟩
  · rw [ho, if_pos h]
  · rw [ho, if_neg (by simp [h])]
  · rw [hg, if_pos h]
  · rw [hg, if_neg (by simp [h])]
  · rw [hu, if_pos h]
  · rw [hu, if_neg (by simp [h])]

-- non-vacuity (B3): `uo=rx` on 0o104624: user and other become r-x, group keeps -w-, set-user-ID and type stay
example : (Mode.equal 5 5).applyTo 0o104624 = 0o104525 := by decide
example := equal_sets_named_classes 5 5 0o104624 (by decide)
example : (5 &&& 4 ≠ 0) ∧ (5 &&& 2 = 0) ∧ (5 &&& 1 ≠ 0) ∧ (Mode.equal 5 5).applyTo 0o104624 &&& 0o007 = 5 ∧
    (Mode.equal 5 5).applyTo 0o104624 &&& 0o070 = 0o104624 &&& 0o070 ∧
    (Mode.equal 5 5).applyTo 0o104624 &&& 0o700 = 5 <<< 6 := by decide
-- `p < 8` is needed: "other = 8" spills into the group field
example : (Mode.equal 4 8).applyTo 0 &&& 0o007 ≠ 8 := by decide

/-- `-` with a mask that fits 16 bits, on a 16-bit mode value, bit by bit.  (The generalisation of (B4) from
    `p < 8` to `targetApply t p < 65536`; without a bound on the mask the statement is false, see
    `minus_exact_needs_small_mask`.) -/
theorem minus_exact_partial (t p x : Nat) (hT : targetApply t p < 65536) (hx : x < 65536) (i : Nat) :
    ((Mode.minus t p).applyTo x).testBit i = (x.testBit i && !(targetApply t p).testBit i) := by
  show (x &&& (0xFFFF - targetApply t p)).testBit i = _
  have e : 0xFFFF - targetApply t p = 2 ^ 16 - (targetApply t p + 1) := by omega
  rw [Nat.testBit_and, e, Nat.testBit_two_pow_sub_succ (by omega)]
  by_cases hi : i < 16
  · simp [hi]
  · have hx2 : x.testBit i = false :=
      Nat.testBit_lt_two_pow (Nat.lt_of_lt_of_le hx (Nat.pow_le_pow_right (by decide) (by omega) : 2 ^ 16 ≤ 2 ^ i))
    rw [hx2]; rfl

/-- **(B4)** `+` adds exactly the bits of the mask (any `x`, any `p`); `-` removes exactly the bits of the mask
    (clause with `p < 8`, 16-bit mode value). -/
theorem plus_minus_exact (t p x : Nat) :
    (Mode.plus t p).applyTo x = x ||| targetApply t p ∧
    (p < 8 → x < 65536 → ∀ i, ((Mode.minus t p).applyTo x).testBit i = (x.testBit i && !(targetApply t p).testBit i)) :=
  ⟨rfl, fun hp hx i => minus_exact_partial t p x (Nat.lt_trans (targetApply_lt t p hp) (by decide)) hx i⟩

/-- consequences of (B4) in mask form: after `-` no bit of the mask is set, and the bits outside the mask are
    those of `x` -/
theorem minus_mask (t p x : Nat) (hp : p < 8) (hx : x < 65536) :
    ((Mode.minus t p).applyTo x) &&& targetApply t p = 0 ∧
    ((Mode.minus t p).applyTo x) ||| (x &&& targetApply t p) = x := by
  have h := (plus_minus_exact t p x).2 hp hx
  constructor
  · apply Nat.eq_of_testBit_eq
    intro i
    rw [Nat.testBit_and, h i, Nat.zero_testBit]
    cases x.testBit i <;> cases (targetApply t p).testBit i <;> rfl
  · apply Nat.eq_of_testBit_eq
    intro i
    rw [Nat.testBit_or, Nat.testBit_and, h i]
    cases x.testBit i <;> cases (targetApply t p).testBit i <;> rfl

/-- without a bound on the permission value the `-` statement is false: the model's `0xFFFF - mask` is `!mask` on
    u16 only for masks that fit 16 bits -/
theorem minus_exact_needs_small_mask :
    ¬ ∀ t p x i : Nat, x < 65536 →
      ((Mode.minus t p).applyTo x).testBit i = (x.testBit i && !(targetApply t p).testBit i) := by
  intro h
  exact absurd (h 4 65536 1 0 (by decide)) (by decide)

/-- … and so is it without `x < 65536` (`-` keeps only 16 bits) -/
theorem minus_exact_needs_u16 :
    ¬ ∀ t p x i : Nat, p < 8 →
      ((Mode.minus t p).applyTo x).testBit i = (x.testBit i && !(targetApply t p).testBit i) := by
  intro h
  exact absurd (h 0 0 65536 16 (by decide)) (by decide)

-- non-vacuity (B4): `ug+w`, `go-rx` on a set-group-ID directory 0o042755
example : (Mode.plus 3 2).applyTo 0o042755 = 0o042775 ∧ (Mode.minus 6 5).applyTo 0o042755 = 0o042700 ∧
    targetApply 6 5 = 0o055 := by decide
example := (plus_minus_exact 6 5 0o042755).2 (by decide) (by decide) 3
example := minus_mask 6 5 0o042755 (by decide) (by decide)
example : ((Mode.minus 6 5).applyTo 0o042755).testBit 3 = false ∧ (0o042755).testBit 3 = true ∧
    (targetApply 6 5).testBit 3 = true ∧ ((Mode.minus 6 5).applyTo 0o042755).testBit 10 = true := by decide

end Pna.C10B

#print axioms Pna.C10B.targetApply_lt
#print axioms Pna.C10B.plus_keeps_other_bits
#print axioms Pna.C10B.equal_keeps_other_bits_partial
#print axioms Pna.C10B.equal_keeps_other_bits_false
#print axioms Pna.C10B.minus_keeps_other_bits
#print axioms Pna.C10B.symbolic_keeps_other_bits_partial
#print axioms Pna.C10B.symbolic_keeps_other_bits_testBit
#print axioms Pna.C10B.legacy_equal_cleared_high_bits
#print axioms Pna.C10B.equal_sets_named_classes
#print axioms Pna.C10B.plus_minus_exact
#print axioms Pna.C10B.minus_exact_partial
#print axioms Pna.C10B.minus_mask
