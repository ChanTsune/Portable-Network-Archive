import PnaVerif.Lemmas.AclFast
/-!
# C15 (CLI part) — the textual codecs of the CLI are exact inverse pairs over their domain
Model: `Model/Cli/Text.lean`; lemmas: `Lemmas/CliText.lean`.

* `splitOn`/`join` (the `str::split` / `Itertools::join` pair every codec below rests on);
* flag and permission sets printed by primary name and parsed by any alias;
* access-control entries `flags:kind:name:allow|deny:perms`, with and without platform prefix,
  under `Ace.WF` (6 flag bits, 16 permission bits, a named owner is non-empty and has no `:`);
* extended-attribute values in `0x…` hex and `0s…` base64 form, for all byte strings;
* stability on accepted input: whatever `parseAce` accepts is `WF`, hence re-encodes exactly.

The `WF` side conditions are necessary: see the negative witnesses at the end.
-/
namespace Pna.C15Cli
open Pna Pna.Cli.Text

theorem splitOn_join (sep : Char) (xs : List Str) (hne : xs ≠ []) (h : ∀ x ∈ xs, sep ∉ x) :
    splitOn sep (join sep xs) = xs := by
  rw [splitOn_eq, join_eq, List.splitOn_intercalate sep h hne]

theorem splitOn_join_nil (sep : Char) : splitOn sep (join sep []) = [[]] := rfl

theorem splitOn_pieces (sep : Char) (s : Str) : ∀ p ∈ splitOn sep s, sep ∉ p :=
  splitOn_eq sep s ▸ List.not_mem_of_mem_splitOn sep s

/-- General form: any table satisfying the (decidable) side conditions `TableOK`. -/
theorem parseSet_showSet (table : List (Nat × List Str)) (hok : TableOK table) (bits : Bits)
    (h : bits.length = table.length) : parseSet table (showSet table bits) = bits :=
  parseSet_showSet_of_ok table hok bits h

theorem parseSet_showSet_flags (bits : Bits) (h : bits.length = 6) :
    parseSet flagTable (showSet flagTable bits) = bits :=
  parseSet_showSet_of_ok flagTable flagTable_ok bits h

theorem parseSet_showSet_perms (bits : Bits) (h : bits.length = 16) :
    parseSet permTable (showSet permTable bits) = bits :=
  parseSet_showSet_of_ok permTable permTable_ok bits h

theorem parseSet_length (table : List (Nat × List Str)) (s : Str) :
    (parseSet table s).length = table.length :=
  Pna.Cli.Text.parseSet_length table s

theorem ace_roundtrip (a : Ace) (h : a.WF) : parseAce (showAce a) = .ok a :=
  parseAce_showAce a h

theorem acep_roundtrip (p : Option Str) (a : Ace) (h : a.WF) (hp : ∀ q, p = some q → ':' ∉ q) :
    parseAceP (showAceP p a) = .ok (some (p.getD []), a) := by
  have hq : ':' ∉ p.getD [] := by
    cases p with
    | none => simp
    | some q => exact hp q rfl
  have hcount : ((showAceP p a).filter (· = ':')).length = 5 := by
    unfold showAceP
    rw [List.filter_append, filter_sep_nil ':' _ hq, List.filter_cons]
    simp [showAce_colons a h.2.2]
  unfold parseAceP
  rw [if_pos hcount]
  unfold showAceP
  have hne : ∀ c ∈ p.getD [], decide (c ≠ ':') = true := fun _ hc => decide_eq_true fun e => hq (e ▸ hc)
  rw [List.takeWhile_append_of_pos hne, List.dropWhile_append_of_pos hne]
  simp [parseAce_showAce a h]
  rfl

theorem hex_roundtrip (bs : Bytes) : parseValue (showHex bs) = some bs := by
  unfold showHex
  rw [parseValue.eq_1]
  induction bs with
  | nil => rfl
  | cons b bs ih =>
    simp only [List.flatMap_cons, List.cons_append, List.nil_append, charChunks2, List.mapM_cons,
      parseU8Hex_byte, ih]
    rfl

theorem b64_roundtrip (bs : Bytes) : b64Decode (b64Encode bs) = some bs := by
  induction bs using b64Encode.induct with
  | case1 => rfl
  | case2 a =>
    obtain ⟨h1, h2, -, -, r1, r2, -⟩ := b64_arith a 0 0
    simp only [UInt8.toNat_zero, Nat.zero_div, Nat.add_zero] at h2 r1 r2
    rw [b64Encode, b64Decode.eq_2, b64Val_b64Char _ h1, b64Val_b64Char _ h2]
    simp only []
    rw [if_pos (by omega), u8_ofNat_eq a _ r1]
  | case3 a b =>
    obtain ⟨h1, h2, h3, -, r1, r2, r3⟩ := b64_arith a b 0
    simp only [UInt8.toNat_zero, Nat.zero_div, Nat.add_zero] at h3 r2 r3
    rw [b64Encode, b64Decode.eq_3 _ _ _ (b64Char_ne_pad _ h3),
      b64Val_b64Char _ h1, b64Val_b64Char _ h2, b64Val_b64Char _ h3]
    simp only []
    rw [if_pos (by omega), u8_ofNat_eq a _ r1, u8_ofNat_eq b _ r2]
  | case4 a b c r ih =>
    obtain ⟨h1, h2, h3, h4, r1, r2, r3⟩ := b64_arith a b c
    have hd : b64Char (c.toNat % 64) ≠ '=' := b64Char_ne_pad _ h4
    rw [b64Encode, b64Decode.eq_4 _ _ _ _ _ (fun _ h _ => hd h) (fun h _ => hd h),
      b64Val_b64Char _ h1, b64Val_b64Char _ h2, b64Val_b64Char _ h3, b64Val_b64Char _ h4, ih]
    simp only []
    rw [u8_ofNat_eq a _ r1, u8_ofNat_eq b _ r2, u8_ofNat_eq c _ r3]

theorem b64_value_roundtrip (bs : Bytes) : parseValue (showB64 bs) = some bs := by
  unfold showB64
  rw [parseValue.eq_2]
  exact b64_roundtrip bs

/-- An accepted owner is well formed: the name field is a split piece (no `:`) and
    `parseOwner` maps the empty name to `.owner` / `.ownerGroup`. -/
theorem parseAce_owner_WF (s : Str) (a : Ace) (h : parseAce s = .ok a) : a.owner.WF :=
  (Pna.Cli.Text.parseAce_WF s a h).2.2

/-- Everything `parseAce` accepts is in the round-trip domain. -/
theorem parseAce_WF (s : Str) (a : Ace) (h : parseAce s = .ok a) : a.WF :=
  Pna.Cli.Text.parseAce_WF s a h

/-- decode → encode → decode is the identity on accepted input (no side hypothesis). -/
theorem ace_reencode_stable (s : Str) (a : Ace) (h : parseAce s = .ok a) :
    parseAce (showAce a) = .ok a :=
  parseAce_showAce a (Pna.Cli.Text.parseAce_WF s a h)

def it : Ace :=
  { flags := [true, false, false, true, false, true]
    owner := .user "alice".toList
    allow := true
    perms := [true, true, false, false, false, false, true, false,
              false, false, false, false, false, true, false, true] }

example : it.WF := by decide
example : showAce it =
    "d,only_inherit,inherited:u:alice:allow:r,w,readattr,sync,write_data".toList := by
  rw [Cli.Fast.showAce_eq, String.toList_ofList]
  decide +kernel
example : parseAce (showAce it) = .ok it := by
  rw [Cli.Fast.parseAce_eq, Cli.Fast.showAce_eq]
  decide +kernel
example : parseAce (showAce it) = .ok it := ace_roundtrip it (by decide)
example : parseAceP (showAceP (some "macos".toList) it) = .ok (some "macos".toList, it) := by
  rw [Cli.Fast.parseAceP_eq, showAceP, Cli.Fast.showAce_eq]
  decide +kernel
example : parseAceP (showAceP none it) = .ok (some [], it) := acep_roundtrip none it (by decide) nofun
/-- aliases are accepted on input and normalised to primary names on output -/
example : parseAce "default,inherited:user:alice:allow:read,write".toList =
    .ok { it with flags := [true, false, false, false, false, true],
                  perms := [true, true] ++ List.replicate 14 false } := by
  rw [Cli.Fast.parseAce_eq, String.toList_ofList]
  decide +kernel
/-- the empty sets -/
example : showAce { it with flags := List.replicate 6 false, perms := List.replicate 16 false } =
    ":u:alice:allow:".toList := by
  rw [Cli.Fast.showAce_eq, String.toList_ofList]
  decide +kernel

example : showB64 [0, 255, 16] = "0sAP8Q".toList := by
  simp only [showB64, b64Encode, b64Char, b64Alphabet_eq]
  decide +kernel
example : showB64 [0, 255] = "0sAP8=".toList := by
  simp only [showB64, b64Encode, b64Char, b64Alphabet_eq]
  decide +kernel
example : showB64 [255] = "0s/w==".toList := by
  simp only [showB64, b64Encode, b64Char, b64Alphabet_eq]
  decide +kernel
example : showHex [0, 255, 16] = "0x00ff10".toList := by decide
example : parseValue "0sAP8Q".toList = some [0, 255, 16] := by decide +kernel
example : parseValue "0x00ff10".toList = some [0, 255, 16] := by decide +kernel

/-- a `:` inside an owner name shifts the fields: the entry no longer parses at all -/
theorem colon_in_name_breaks :
    parseAce (showAce { it with owner := .user "a:b".toList }) = .error .badAccess := by
  rw [Cli.Fast.parseAce_eq, Cli.Fast.showAce_eq]
  decide +kernel

theorem colon_in_name_no_roundtrip :
    parseAce (showAce { it with owner := .user "a:b".toList }) ≠
      .ok { it with owner := .user "a:b".toList } := by
  rw [Cli.Fast.parseAce_eq, Cli.Fast.showAce_eq]
  decide +kernel

/-- `.user ""` prints like `.owner` and parses back as `.owner` -/
theorem empty_name_becomes_owner :
    parseAce (showAce { it with owner := .user [] }) = .ok { it with owner := .owner } := by
  rw [Cli.Fast.parseAce_eq, Cli.Fast.showAce_eq]
  decide +kernel

theorem empty_name_no_roundtrip :
    parseAce (showAce { it with owner := .user [] }) ≠ .ok { it with owner := .user [] } := by
  rw [Cli.Fast.parseAce_eq, Cli.Fast.showAce_eq]
  decide +kernel

/-- a short bit list is padded by the parser, so the length conditions are needed too -/
theorem short_flags_no_roundtrip :
    parseAce (showAce { it with flags := [true] }) ≠ .ok { it with flags := [true] } := by
  rw [Cli.Fast.parseAce_eq, Cli.Fast.showAce_eq]
  decide +kernel

/-- a `:` in the platform makes six separators: the prefix is no longer recognised -/
theorem colon_in_platform_no_roundtrip :
    parseAceP (showAceP (some "a:b".toList) it) ≠ .ok (some "a:b".toList, it) := by
  rw [Cli.Fast.parseAceP_eq, showAceP, Cli.Fast.showAce_eq]
  decide +kernel

#print axioms splitOn_join
#print axioms splitOn_join_nil
#print axioms splitOn_pieces
#print axioms parseSet_showSet
#print axioms parseSet_showSet_flags
#print axioms parseSet_showSet_perms
#print axioms parseSet_length
#print axioms ace_roundtrip
#print axioms acep_roundtrip
#print axioms hex_roundtrip
#print axioms b64_roundtrip
#print axioms b64_value_roundtrip
#print axioms parseAce_owner_WF
#print axioms parseAce_WF
#print axioms ace_reencode_stable
#print axioms colon_in_name_breaks
#print axioms colon_in_name_no_roundtrip
#print axioms empty_name_becomes_owner
#print axioms empty_name_no_roundtrip
#print axioms short_flags_no_roundtrip
#print axioms colon_in_platform_no_roundtrip

end Pna.C15Cli
