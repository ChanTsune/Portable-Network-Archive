import PnaVerif.Lemmas.Chunk
/-!
# C18 — every reported size is exact (chunk level)
`bytes_len` (what `add_entry*` sums and returns) equals the number of bytes `write_chunk_in`
emits, for every chunk.
-/
namespace Pna.C18
open Pna

theorem encode_len (c : Chunk) : c.encode.length = 12 + c.data.length := Chunk.encode_length c

theorem bytes_len_exact (c : Chunk) : c.bytesLen = c.encode.length := Chunk.bytesLen_eq_encode_length c

/-- Sum of `bytes_len` over a chunk list = length of the concatenated encodings
    (`EntryPart::bytes_len`, `chunks_write_in`, `add_entry_part`). -/
theorem part_bytes_len (cs : List Chunk) :
    (cs.map Chunk.bytesLen).sum = (cs.flatMap Chunk.encode).length :=
  (Chunk.flatMap_encode_length cs).symm

example : (Chunk.mk ChunkType.FDAT [1, 2, 3]).bytesLen = 15 := by decide

end Pna.C18
