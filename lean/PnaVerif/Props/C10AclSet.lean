import PnaVerif.Lemmas.AclSet
import PnaVerif.Lemmas.AclFast
import PnaVerif.Props.C10AclIdem
/-!
# C10 — `acl set` is idempotent and edits only the General platform's list
Model: `Cli.aclSetE modify remove` (`transform_entry` of `pna experimental acl set -m -x` on a selected entry) and
`Cli.aclSetF` (the transformer handed to the strategy), Model/Cli/Acl.lean.  `aclList cs k` is the list of platform `k`
in the map `acl()` collects from the private chunks `cs` (a failing `acl()` counts as the empty map, as in the command).

All is read off `aclset_readback`: on an entry with a General list the written chunks read back as the collected map
with that list edited by `aclUpd modify remove` — and DROPPED if the edit emptied it (`dropEmpty`).  So the list of
every platform `k ≠ ""` reads back as it was (`aclset_other_platforms`), the General list as `aclUpd modify remove l` or
not at all (`aclset_general_list`; `-m` alone: `aclset_modify_*`, `-x` alone: `aclset_remove_*`), an edit that leaves
the list alone still rewrites the chunks the way `migrate` does (`aclset_noedit_migrate`), and the command is
idempotent on all entries for all argument combinations (`aclset_idem`; the transformer: `aclsetF_idem`; an
unselected entry: `C10A.aclset_unselected`).  The one hypothesis is `ArgOk` of the `-m` argument — the owner it names
is well formed (`↔ x.toAce.WF`, `argOk_iff_toAce_WF`); `*_needs_ArgOk*` are kernel-checked failures without it.
-/
namespace Pna.C10AS
open Pna Pna.Cli Pna.Cli.Text

abbrev ArgOk := Cli.ArgOk

theorem argOk_iff_toAce_WF (x : AclArg) : ArgOk x ↔ x.toAce.WF := (toAce_WF_iff x).symm

def aclList (cs : List (Bytes × Bytes)) (k : Str) : Option (List Ace) := List.lookup k ((aclOf [] [] cs).getD [])

theorem aclList_general {cs : List (Bytes × Bytes)} {l : List Ace} (h : aclList cs [] = some l) :
    ∃ m m1 m2, aclOf [] [] cs = some m ∧ m.any (·.1 == []) = true ∧ SplitG m m1 l m2 := by
  unfold aclList at h
  cases hm : aclOf [] [] cs with
  | none => rw [hm] at h; cases h
  | some m =>
    rw [hm, Option.getD_some] at h
    obtain ⟨m1, m2, hs⟩ := splitG_of_lookup (C10AI.aclOf_mapOk _ m hm) h
    exact ⟨m, m1, m2, rfl, by rw [any_key_eq_isSome, h]; rfl, hs⟩

/-- "the entry has a General list", as `aclSetE` tests it -/
theorem general_iff (cs : List (Bytes × Bytes)) :
    ((aclOf [] [] cs).getD []).any (·.1 == []) = (aclList cs []).isSome := any_key_eq_isSome _ _

/-- `-m u:bob:w,x` — matches the General entry of `exG` -/
def argBobWX : AclArg := ⟨false, .user "bob".toList, some "w,x".toList⟩
/-- `-m u:carol:r` — matches nothing in `exG` -/
def argCarol : AclArg := ⟨false, .user "carol".toList, some "r".toList⟩
/-- `-x u:bob` -/
def argBob : AclArg := ⟨false, .user "bob".toList, none⟩
/-- an empty name (the argument parser cannot produce it) -/
def argEmpty : AclArg := ⟨false, .user [], some "r".toList⟩
/-- a `:` in the name (the argument parser cannot produce it either: `take_while(|c| c != ':')`) -/
def argColon : AclArg := ⟨false, .user "a:b".toList, some "r".toList⟩
/-- a `:` in the name, such that the text written parses — as a DIFFERENT entry -/
def argColon2 : AclArg := ⟨false, .user "u:bob".toList, some "w".toList⟩

def aceBobR : Ace := { flags := List.replicate 6 false, owner := .user "bob".toList, allow := true,
                       perms := true :: List.replicate 15 false }
def aceAliceR : Ace := { aceBobR with owner := .user "alice".toList }

example : ArgOk argBobWX ∧ ArgOk argCarol ∧ ArgOk argBob := by decide
example : ¬ ArgOk argEmpty ∧ ¬ ArgOk argColon ∧ ¬ ArgOk argColon2 := by decide
example : argBobWX.toAce.WF := (argOk_iff_toAce_WF _).mp (by decide)

theorem exG_acl : aclOf [] [] C10A.exG.extras = some [("linux".toList, [aceAliceR]), ([], [aceBobR])] := by
  rw [Fast.aclOf_eq, C10A.exG_eq]
  decide +kernel
theorem exG_general : aclList C10A.exG.extras [] = some [aceBobR] := by
  unfold aclList
  rw [exG_acl]
  decide +kernel
theorem exG_linux : aclList C10A.exG.extras "linux".toList = some [aceAliceR] := by
  unfold aclList
  rw [exG_acl]
  decide +kernel

/-- What `acl()` collects from the chunks `acl set` wrote (entry with a General list, `-m` argument well formed). -/
theorem aclset_readback (modify remove : Option AclArg) (hx : ∀ x, modify = some x → ArgOk x) (e : LEntry) (m : AclMap)
    (hm : aclOf [] [] e.extras = some m) (hg : m.any (·.1 == []) = true) :
    aclOf [] [] (aclSetE modify remove e).extras = some (dropEmpty (m.map (editG (aclUpd modify remove)))) := by
  have hok := C10AI.aclOf_mapOk _ m hm
  rw [aclSetE_of_general modify remove e m hm hg]
  refine aclOf_aclChunks_dropEmpty _ (by rw [editG_keys]; exact hok.1) (fun p hp a ha => ?_) _ (filter_not_acl e.extras)
  obtain ⟨q, hq, rfl⟩ := List.mem_map.mp hp
  unfold editG at ha
  split at ha
  · exact aclUpd_WF modify remove hx q.2 (hok.2 q hq).2 a ha
  · exact (hok.2 q hq).2 a ha

example : aclOf [] [] (aclSetE (some argCarol) (some argBob) C10A.exG).extras
    = some [("linux".toList, [aceAliceR]), ([], [argCarol.toAce])] := by
  rw [aclset_readback _ _ (argOk_some (by decide)) _ _ exG_acl (by decide)]
  unfold aclUpd modifyOrAdd
  rw [Fast.modifyFirst_eq, Fast.toAce_eq]
  decide +kernel

/-- The list of every platform other than General reads back from the edited entry exactly as it was — whether or
    not the entry has a General list, whatever `-x` names; the `-m` argument must be well formed. -/
theorem aclset_other_platforms (modify remove : Option AclArg) (hx : ∀ x, modify = some x → ArgOk x) (e : LEntry)
    (k : Str) (hk : k ≠ []) : aclList (aclSetE modify remove e).extras k = aclList e.extras k := by
  cases hg0 : ((aclOf [] [] e.extras).getD []).any (·.1 == []) with
  | false => rw [C10A.aclset_without_general modify remove e hg0]
  | true =>
    obtain ⟨l, hl⟩ := Option.isSome_iff_exists.1 (general_iff e.extras ▸ hg0)
    obtain ⟨m, m1, m2, hm, hg, hs⟩ := aclList_general hl
    unfold aclList
    rw [aclset_readback modify remove hx e m hm hg, hm, Option.getD_some, Option.getD_some]
    exact lookup_other_split _ hs hk

example : aclList (aclSetE (some argBobWX) (some argBob) C10A.exG).extras "linux".toList = some [aceAliceR] :=
  (aclset_other_platforms _ _ (argOk_some (by decide)) _ _ (by decide)).trans exG_linux
example : aclList (aclSetE (some argBobWX) (some argBob) C10A.exG).extras "linux".toList = some [aceAliceR] := by
  simp only [aclList, Fast.aclSetE_eq, Fast.aclOf_eq, C10A.exG_eq]
  decide +kernel

/-- without `ArgOk`: a `:` in the name makes the written text unreadable, `acl()` fails on the result, and the lists
    of ALL platforms are gone for every later command (`unwrap_or_default`) -/
theorem other_platforms_needs_ArgOk :
    aclOf [] [] (aclSetE (some argColon) none C10A.exG).extras = none ∧
    aclList (aclSetE (some argColon) none C10A.exG).extras "linux".toList = none ∧
    aclList C10A.exG.extras "linux".toList = some [aceAliceR] := by
  simp only [aclList, Fast.aclSetE_eq, Fast.aclOf_eq, C10A.exG_eq]
  decide +kernel

/-- The General list reads back as the edited list `aclUpd modify remove l` — or NOT AT ALL when the edit emptied it:
    `aclChunks` writes a lone `faCl` chunk for an empty list, and `acl()` creates a list only when it meets an entry. -/
theorem aclset_general_list (modify remove : Option AclArg) (hx : ∀ x, modify = some x → ArgOk x) (e : LEntry)
    (l : List Ace) (hl : aclList e.extras [] = some l) :
    aclList (aclSetE modify remove e).extras [] =
      if aclUpd modify remove l = [] then none else some (aclUpd modify remove l) := by
  obtain ⟨m, m1, m2, hm, hg, hs⟩ := aclList_general hl
  unfold aclList
  rw [aclset_readback modify remove hx e m hm hg, Option.getD_some]
  exact lookup_general_split _ hs

example : aclList (aclSetE (some argCarol) (some argBob) C10A.exG).extras [] = some [argCarol.toAce] :=
  (aclset_general_list _ _ (argOk_some (by decide)) _ _ exG_general).trans (by unfold aclUpd modifyOrAdd; rw [Fast.modifyFirst_eq, Fast.toAce_eq]; decide +kernel)

/-- Pointwise characterisation of `modifyFirst`: some entry matches ⇒ exactly the FIRST matching entry changes, and
    only in its permission set, which becomes the argument's. -/
theorem modifyFirst_pointwise (x : AclArg) (l : List Ace) (h : l.any x.isMatch = true) :
    ∃ i, ∃ hi : i < l.length, x.isMatch l[i] = true ∧ (∀ j (hj : j < i), x.isMatch (l[j]'(Nat.lt_trans hj hi)) = false) ∧
      modifyFirst x l = l.set i { l[i] with perms := x.toAce.perms } := by
  fun_induction modifyFirst x l with
  | case1 => cases h
  | case2 a l ha => exact ⟨0, Nat.zero_lt_succ _, ha, fun j hj => absurd hj (Nat.not_lt_zero j), rfl⟩
  | case3 a l ha ih =>
    obtain ⟨i, hi, h1, h2, h3⟩ := ih (by simpa [ha] using h)
    refine ⟨i + 1, Nat.succ_lt_succ hi, by simpa using h1, fun j hj => ?_, by simp [h3]⟩
    cases j with
    | zero => simpa using ha
    | succ j => simpa using h2 j (Nat.lt_of_succ_lt_succ hj)
example : ∃ i, ∃ hi : i < [aceAliceR, aceBobR, aceBobR].length, argBobWX.isMatch [aceAliceR, aceBobR, aceBobR][i] = true ∧
    (∀ j (hj : j < i), argBobWX.isMatch ([aceAliceR, aceBobR, aceBobR][j]'(Nat.lt_trans hj hi)) = false) ∧
    modifyFirst argBobWX [aceAliceR, aceBobR, aceBobR]
      = [aceAliceR, aceBobR, aceBobR].set i { [aceAliceR, aceBobR, aceBobR][i] with perms := argBobWX.toAce.perms } :=
  modifyFirst_pointwise _ _ (by decide)
example : modifyFirst argBobWX [aceAliceR, aceBobR, aceBobR]
    = [aceAliceR, { aceBobR with perms := argBobWX.toAce.perms }, aceBobR] := by
  rw [Fast.modifyFirst_eq, Fast.toAce_eq]
  decide +kernel

/-- `-m x` alone: the new General list is `modifyFirst x l` if some entry matches and `l ++ [x.toAce]` otherwise
    (it is never empty, so it always reads back). -/
theorem aclset_modify_semantics (x : AclArg) (hx : ArgOk x) (e : LEntry) (l : List Ace)
    (hl : aclList e.extras [] = some l) :
    aclList (aclSetE (some x) none e).extras [] =
      some (if l.any x.isMatch then modifyFirst x l else l ++ [x.toAce]) := by
  rw [aclset_general_list (some x) none (argOk_some hx) e l hl,
    if_neg (aclUpd_modify_ne_nil x l), aclUpd_modify]

/-- the matching case spelled out: same length, exactly the first matching entry changed, only in its permissions -/
theorem aclset_modify_match (x : AclArg) (hx : ArgOk x) (e : LEntry) (l : List Ace)
    (hl : aclList e.extras [] = some l) (h : l.any x.isMatch = true) :
    ∃ l2, aclList (aclSetE (some x) none e).extras [] = some l2 ∧ l2.length = l.length ∧
      ∃ i, ∃ hi : i < l.length, x.isMatch l[i] = true ∧
        (∀ j (hj : j < i), x.isMatch (l[j]'(Nat.lt_trans hj hi)) = false) ∧
        l2 = l.set i { l[i] with perms := x.toAce.perms } := by
  refine ⟨modifyFirst x l, ?_, C10A.modifyFirst_length x l, modifyFirst_pointwise x l h⟩
  rw [aclset_modify_semantics x hx e l hl, if_pos h]

/-- no entry matches: the argument's entry is appended -/
theorem aclset_modify_nomatch (x : AclArg) (hx : ArgOk x) (e : LEntry) (l : List Ace)
    (hl : aclList e.extras [] = some l) (h : l.any x.isMatch = false) :
    aclList (aclSetE (some x) none e).extras [] = some (l ++ [x.toAce]) := by
  rw [aclset_modify_semantics x hx e l hl, h]
  rfl

example : aclList (aclSetE (some argBobWX) none C10A.exG).extras []
    = some [{ aceBobR with perms := argBobWX.toAce.perms }] :=
  (aclset_modify_semantics argBobWX (by decide) _ _ exG_general).trans (by rw [Fast.modifyFirst_eq, Fast.toAce_eq]; decide +kernel)
example : ∃ l2, aclList (aclSetE (some argBobWX) none C10A.exG).extras [] = some l2 ∧ l2.length = [aceBobR].length ∧
    ∃ i, ∃ hi : i < [aceBobR].length, argBobWX.isMatch [aceBobR][i] = true ∧
      (∀ j (hj : j < i), argBobWX.isMatch ([aceBobR][j]'(Nat.lt_trans hj hi)) = false) ∧
      l2 = [aceBobR].set i { [aceBobR][i] with perms := argBobWX.toAce.perms } :=
  aclset_modify_match argBobWX (by decide) _ _ exG_general (by decide)
example : aclList (aclSetE (some argCarol) none C10A.exG).extras [] = some [aceBobR, argCarol.toAce] :=
  aclset_modify_nomatch argCarol (by decide) _ _ exG_general (by decide)
example : aclList (aclSetE (some argCarol) none C10A.exG).extras [] = some [aceBobR, argCarol.toAce] := by
  simp only [aclList, Fast.aclSetE_eq, Fast.aclOf_eq, Fast.toAce_eq, C10A.exG_eq]
  decide +kernel

/-- without `ArgOk` (an empty name): the appended entry reads back as a DIFFERENT entry, the owning user's -/
theorem modify_needs_ArgOk :
    aclList (aclSetE (some argEmpty) none C10A.exG).extras [] = some [aceBobR, { argEmpty.toAce with owner := .owner }] ∧
    { argEmpty.toAce with owner := .owner } ≠ argEmpty.toAce := by
  simp only [aclList, Fast.aclSetE_eq, Fast.aclOf_eq, Fast.toAce_eq, C10A.exG_eq]
  decide +kernel
/-- … and a name with a `:` can read back as another user's entry with another meaning of the fields -/
theorem modify_needs_ArgOk_colon :
    aclList (aclSetE (some argColon2) none C10A.exG).extras []
      = some [aceBobR, { argColon2.toAce with owner := .user "bob".toList }] := by
  simp only [aclList, Fast.aclSetE_eq, Fast.aclOf_eq, Fast.toAce_eq, C10A.exG_eq]
  decide +kernel

/-- `-x x` alone: the new General list is `l` without the matching entries; when ALL entries match, the entry is
    left without a General list (a lone `faCl` chunk stays behind).  No hypothesis on the argument: nothing of it is
    written.  The other platforms: `aclset_other_platforms`. -/
theorem aclset_remove_semantics (x : AclArg) (e : LEntry) (l : List Ace) (hl : aclList e.extras [] = some l) :
    aclList (aclSetE none (some x) e).extras [] =
      if l.filter (fun a => !x.isMatch a) = [] then none else some (l.filter (fun a => !x.isMatch a)) :=
  aclset_general_list none (some x) nofun e l hl

/-- `aclset_other_platforms` for `-x` alone: no hypothesis is left -/
theorem aclset_remove_other_platforms (x : AclArg) (e : LEntry) (k : Str) (hk : k ≠ []) :
    aclList (aclSetE none (some x) e).extras k = aclList e.extras k :=
  aclset_other_platforms none (some x) nofun e k hk

/-- If the edit leaves the General list as it is (any arguments), the entry is still REWRITTEN: `acl set` on an entry
    with a General list normalises the chunk layout exactly like `migrate`. -/
theorem aclset_noedit_migrate (modify remove : Option AclArg) (e : LEntry) (l : List Ace)
    (hl : aclList e.extras [] = some l) (hf : aclUpd modify remove l = l) :
    migrateE e = some (aclSetE modify remove e) := by
  obtain ⟨m, m1, m2, hm, hg, hs⟩ := aclList_general hl
  rw [aclSetE_of_general modify remove e m hm hg, (editG_split _ hs).1, hf, ← hs.1]
  unfold migrateE
  rw [hm]
  rfl

/-- nothing matches: the chunks are those `migrate` writes … -/
theorem aclset_remove_nomatch_migrate (x : AclArg) (e : LEntry) (l : List Ace) (hl : aclList e.extras [] = some l)
    (h : l.any x.isMatch = false) : (migrateE e).map (·.extras) = some (aclSetE none (some x) e).extras := by
  rw [aclset_noedit_migrate none (some x) e l hl (by rw [aclUpd_remove]; exact filter_eq_self_of_none _ l h)]
  rfl

/-- … and the map is unchanged -/
theorem aclset_remove_nomatch_map (x : AclArg) (e : LEntry) (l : List Ace) (hl : aclList e.extras [] = some l)
    (h : l.any x.isMatch = false) : aclOf [] [] (aclSetE none (some x) e).extras = aclOf [] [] e.extras :=
  C10AI.migrate_same_acl e _
    (aclset_noedit_migrate none (some x) e l hl (by rw [aclUpd_remove]; exact filter_eq_self_of_none _ l h))

/-- the same for a `-m` that changes nothing (the first matching entry has the permission already) -/
theorem aclset_modify_noop_migrate (x : AclArg) (e : LEntry) (l : List Ace) (hl : aclList e.extras [] = some l)
    (h : l.any x.isMatch = true) (hp : modifyFirst x l = l) : migrateE e = some (aclSetE (some x) none e) :=
  aclset_noedit_migrate (some x) none e l hl (by rw [aclUpd_modify, if_pos h, hp])

-- `-x u:bob` on `exG` empties the General list …
example : aclList (aclSetE none (some argBob) C10A.exG).extras [] = none :=
  (aclset_remove_semantics argBob _ _ exG_general).trans (by decide +kernel)
/-- … a lone `faCl` chunk with an empty platform name stays behind … -/
theorem exG_remove_bob : (aclSetE none (some argBob) C10A.exG).extras =
    [(faCl, utf8 "linux".toList), (faCe, utf8 ":u:alice:allow:r".toList), (faCl, []), ([109,121,84,121], [1])] := by
  rw [aclSetE_of_general _ _ _ _ exG_acl (by decide), Fast.aclChunks_eq]
  decide +kernel
/-- … and the entry can no longer be edited by `acl set` at all: `-m` is now the identity -/
theorem exG_remove_then_modify :
    aclSetE (some argCarol) none (aclSetE none (some argBob) C10A.exG) = aclSetE none (some argBob) C10A.exG := by
  apply C10A.aclset_without_general
  rw [exG_remove_bob, Fast.aclOf_eq]
  decide +kernel
-- `-x u:carol` matches nothing:
example : aclList (aclSetE none (some argCarol) C10A.exG).extras [] = some [aceBobR] :=
  (aclset_remove_semantics argCarol _ _ exG_general).trans (by decide +kernel)
example : aclList (aclSetE none (some argCarol) C10A.exG).extras "linux".toList = some [aceAliceR] :=
  (aclset_remove_other_platforms argCarol _ _ (by decide)).trans exG_linux
example : (migrateE C10A.exG).map (·.extras) = some (aclSetE none (some argCarol) C10A.exG).extras :=
  aclset_remove_nomatch_migrate argCarol _ _ exG_general (by decide)
example : aclOf [] [] (aclSetE none (some argCarol) C10A.exG).extras = aclOf [] [] C10A.exG.extras :=
  aclset_remove_nomatch_map argCarol _ _ exG_general (by decide)
/-- … yet the entry is not handed on as it is: the platform prefix of the `linux` entry is dropped (layout of `migrate`) -/
theorem exG_remove_nomatch_rewrites :
    aclSetE none (some argCarol) C10A.exG ≠ C10A.exG ∧ migrateE C10A.exG = some (aclSetE none (some argCarol) C10A.exG) := by
  unfold migrateE
  rw [Fast.aclSetE_eq, Fast.aclOf_eq, Fast.aclChunks_eq, C10A.exG_eq]
  decide +kernel
example : migrateE C10A.exG = some (aclSetE (some ⟨false, .user "bob".toList, some "r".toList⟩) none C10A.exG) :=
  aclset_modify_noop_migrate _ _ _ exG_general (by decide) (by rw [Fast.modifyFirst_eq]; decide +kernel)

/-- the edit of the list itself is idempotent, for all arguments: after `-m x` the first matching entry exists and has
    the permission; after `-x y` nothing matches `y`; with both, `y` either matches exactly what `x` matches (then the
    second run appends `x`'s entry and removes it again) or nothing `x` matches (then removing commutes with modifying) -/
theorem aclUpd_idem (modify remove : Option AclArg) (l : List Ace) :
    aclUpd modify remove (aclUpd modify remove l) = aclUpd modify remove l := by
  cases modify with
  | none =>
    cases remove with
    | none => rfl
    | some y => exact filter_not_idem _ l
  | some x =>
    cases remove with
    | none => exact modifyOrAdd_idem x l
    | some y =>
      show (modifyOrAdd x ((modifyOrAdd x l).filter _)).filter _ = (modifyOrAdd x l).filter _
      rcases isMatch_dichotomy x y with hxy | hxy
      · rw [modifyOrAdd_filter_same x y _ hxy, filter_not_idem]
      · have h1 : ((modifyOrAdd x l).filter (fun a => !y.isMatch a)).any x.isMatch = true := by
          rw [filter_any_disj x y _ hxy]; exact modifyOrAdd_any x l
        rw [modifyOrAdd_of_any x _ h1, ← modifyFirst_filter_disj x y _ hxy,
          ← modifyOrAdd_of_any x _ (modifyOrAdd_any x l), modifyOrAdd_idem, filter_not_idem]

example : aclUpd (some argBobWX) (some argBob) [aceAliceR, aceBobR, aceBobR] = [aceAliceR] := by
  unfold aclUpd modifyOrAdd
  rw [Fast.modifyFirst_eq, Fast.toAce_eq]
  decide +kernel
example : aclUpd (some argBobWX) (some argBob) [aceAliceR] = [aceAliceR] := by decide +kernel

/-- `acl set` is idempotent on every entry, in every combination of `-m` and `-x` (also when they name the same
    owner, and when the edit empties the General list: the second run then finds no General list and hands the entry
    on as it is).  Only the `-m` argument has to be well formed — of the `-x` argument nothing is written. -/
theorem aclset_idem (modify remove : Option AclArg) (hx : ∀ x, modify = some x → ArgOk x) (e : LEntry) :
    aclSetE modify remove (aclSetE modify remove e) = aclSetE modify remove e := by
  cases hg0 : ((aclOf [] [] e.extras).getD []).any (·.1 == []) with
  | false => rw [C10A.aclset_without_general modify remove e hg0, C10A.aclset_without_general modify remove e hg0]
  | true =>
    obtain ⟨l, hl⟩ := Option.isSome_iff_exists.1 (general_iff e.extras ▸ hg0)
    obtain ⟨m, m1, m2, hm, hg, hs⟩ := aclList_general hl
    have hback := aclset_readback modify remove hx e m hm hg
    cases hg1 : (dropEmpty (m.map (editG (aclUpd modify remove)))).any (·.1 == []) with
    | false =>
      apply C10A.aclset_without_general
      rw [hback, Option.getD_some]
      exact hg1
    | true =>
      -- the General list survived the write/read cycle: nothing was dropped
      have hd : dropEmpty (m.map (editG (aclUpd modify remove))) = m.map (editG (aclUpd modify remove)) := by
        rw [any_key_eq_isSome, lookup_general_split _ hs] at hg1
        rw [(editG_split _ hs).2, (editG_split _ hs).1]
        split
        · -- the edit emptied the list, so `hg1` reads `none.isSome = true`
          rw [if_pos ‹_›] at hg1
          cases hg1
        · simp
      rw [hd] at hback hg1
      rw [aclSetE_of_general modify remove _ _ hback hg1, editG_comp]
      have hf : (fun l => aclUpd modify remove (aclUpd modify remove l)) = aclUpd modify remove := by
        funext l; exact aclUpd_idem modify remove l
      rw [hf]
      rw [aclSetE_of_general modify remove e m hm hg]
      simp only [filter_aclChunks_append _ _ (filter_not_acl e.extras)]

/-- with `ArgOk` of both arguments; that of `-x` is not used -/
theorem aclset_idem_both (modify remove : Option AclArg) (hx : ∀ x, modify = some x → ArgOk x)
    (_hy : ∀ y, remove = some y → ArgOk y) (e : LEntry) :
    aclSetE modify remove (aclSetE modify remove e) = aclSetE modify remove e :=
  aclset_idem modify remove hx e

theorem aclset_modify_idem (x : AclArg) (hx : ArgOk x) (e : LEntry) :
    aclSetE (some x) none (aclSetE (some x) none e) = aclSetE (some x) none e :=
  aclset_idem (some x) none (argOk_some hx) e

theorem aclset_remove_idem (x : AclArg) (e : LEntry) :
    aclSetE none (some x) (aclSetE none (some x) e) = aclSetE none (some x) e :=
  aclset_idem none (some x) nofun e

-- modify only (matching / appending), remove only (emptying the list), both (same owner / different owners)
example : aclSetE (some argBobWX) none (aclSetE (some argBobWX) none C10A.exG) = aclSetE (some argBobWX) none C10A.exG :=
  aclset_modify_idem _ (by decide) _
example : aclSetE (some argBobWX) none C10A.exG ≠ C10A.exG := by
  rw [Fast.aclSetE_eq, C10A.exG_eq]
  decide +kernel
example : aclSetE (some argCarol) none (aclSetE (some argCarol) none C10A.exG) = aclSetE (some argCarol) none C10A.exG :=
  aclset_modify_idem _ (by decide) _
example : aclSetE (some argCarol) none (aclSetE (some argCarol) none C10A.exG) = aclSetE (some argCarol) none C10A.exG := by
  rw [Fast.aclSetE_eq, C10A.exG_eq]
  decide +kernel
example : aclSetE none (some argBob) (aclSetE none (some argBob) C10A.exG) = aclSetE none (some argBob) C10A.exG :=
  aclset_remove_idem _ _
example : aclSetE none (some argBob) C10A.exG ≠ C10A.exG := by
  rw [Fast.aclSetE_eq, C10A.exG_eq]
  decide +kernel
example : aclSetE (some argBobWX) (some argBob) (aclSetE (some argBobWX) (some argBob) C10A.exG)
    = aclSetE (some argBobWX) (some argBob) C10A.exG :=
  aclset_idem_both _ _ (argOk_some (by decide)) (argOk_some (by decide)) _
example : aclSetE (some argCarol) (some argBob) (aclSetE (some argCarol) (some argBob) C10A.exG)
    = aclSetE (some argCarol) (some argBob) C10A.exG :=
  aclset_idem _ _ (argOk_some (by decide)) _
example : (aclSetE (some argCarol) (some argBob) C10A.exG).extras =
    [(faCl, utf8 "linux".toList), (faCe, utf8 ":u:alice:allow:r".toList), (faCl, []),
     (faCe, utf8 ":u:carol:allow:r".toList), ([109,121,84,121], [1])] := by
  rw [Fast.aclSetE_eq, C10A.exG_eq]
  decide +kernel
/-- `-m u:carol:r -x u:carol` on an entry whose General list holds other entries: both runs leave it without carol -/
example : aclList (aclSetE (some argCarol) (some argCarol) C10A.exG).extras [] = some [aceBobR] ∧
    aclSetE (some argCarol) (some argCarol) (aclSetE (some argCarol) (some argCarol) C10A.exG)
      = aclSetE (some argCarol) (some argCarol) C10A.exG := by
  simp only [aclList, Fast.aclSetE_eq, Fast.aclOf_eq, C10A.exG_eq]
  decide +kernel

/-- Without `ArgOk` idempotence FAILS.  An empty name: the entry `u::…` written by the first run reads back as the
    owning user's entry, which the argument does not match — the second run appends the entry again. -/
theorem aclset_idem_needs_ArgOk :
    aclSetE (some argEmpty) none (aclSetE (some argEmpty) none C10A.exG) ≠ aclSetE (some argEmpty) none C10A.exG ∧
    ((aclSetE (some argEmpty) none C10A.exG).extras.filter isAclChunk).length = 5 ∧
    ((aclSetE (some argEmpty) none (aclSetE (some argEmpty) none C10A.exG)).extras.filter isAclChunk).length = 6 := by
  rw [Fast.aclSetE_eq, C10A.exG_eq]
  decide +kernel
/-- A `:` in the name (user `u:bob`; not from the argument parser, which reads the name with `take_while(|c| c != ':')`:
    `-m u:u:bob:w` is user `u` there): the text written, `:u:u:bob:allow:w`, has five colons and reads back as platform
    `""` + `u:u:bob:allow:w` = user `bob`, which the argument does not match — each run appends one more entry. -/
theorem aclset_idem_needs_ArgOk_colon :
    aclSetE (some argColon2) none (aclSetE (some argColon2) none C10A.exG) ≠ aclSetE (some argColon2) none C10A.exG ∧
    (aclList (aclSetE (some argColon2) none C10A.exG).extras []).map List.length = some 2 ∧
    (aclList (aclSetE (some argColon2) none (aclSetE (some argColon2) none C10A.exG)).extras []).map List.length = some 3 := by
  simp only [aclList, Fast.aclSetE_eq, Fast.aclOf_eq, C10A.exG_eq]
  decide +kernel
/-- With the other bad name the second run is the identity — for the wrong reason: `acl()` fails on what the first run
    wrote, so the entry counts as having no lists at all. -/
theorem aclset_unreadable_after_colon :
    aclOf [] [] (aclSetE (some argColon) none C10A.exG).extras = none ∧
    aclSetE (some argColon) none (aclSetE (some argColon) none C10A.exG) = aclSetE (some argColon) none C10A.exG := by
  rw [Fast.aclSetE_eq, Fast.aclOf_eq, C10A.exG_eq]
  decide +kernel

/-- a selected entry is edited by `aclSetE` (the transformer never fails) -/
theorem aclsetF_selected (sel : Bytes → Bool) (modify remove : Option AclArg) (e : LEntry) (h : sel e.name = true) :
    aclSetF sel modify remove e = some (aclSetE modify remove e) := by
  simp [aclSetF, h]

theorem aclsetF_total (sel : Bytes → Bool) (modify remove : Option AclArg) (e : LEntry) :
    ∃ e2, aclSetF sel modify remove e = some e2 ∧ e2.name = e.name := by
  cases h : sel e.name with
  | false => exact ⟨e, C10A.aclset_unselected sel modify remove e h, rfl⟩
  | true => exact ⟨_, aclsetF_selected sel modify remove e h, (C10A.aclset_other_fields modify remove e).1⟩

/-- the transformer is idempotent: what it returns it returns unchanged (selection is by name, which stays) -/
theorem aclsetF_idem (sel : Bytes → Bool) (modify remove : Option AclArg) (hx : ∀ x, modify = some x → ArgOk x)
    (e e2 : LEntry) (h : aclSetF sel modify remove e = some e2) : aclSetF sel modify remove e2 = some e2 := by
  cases hs : sel e.name with
  | false =>
    rw [C10A.aclset_unselected sel modify remove e hs] at h
    cases h
    exact C10A.aclset_unselected sel modify remove e hs
  | true =>
    rw [aclsetF_selected sel modify remove e hs] at h
    cases h
    have hn : (aclSetE modify remove e).name = e.name := (C10A.aclset_other_fields modify remove e).1
    rw [aclsetF_selected sel modify remove _ (by rw [hn]; exact hs), aclset_idem modify remove hx e]

/-- a selected entry: the lists of the other platforms, through the transformer -/
theorem aclsetF_other_platforms (sel : Bytes → Bool) (modify remove : Option AclArg)
    (hx : ∀ x, modify = some x → ArgOk x) (e e2 : LEntry) (h : aclSetF sel modify remove e = some e2)
    (k : Str) (hk : k ≠ []) : aclList e2.extras k = aclList e.extras k := by
  cases hs : sel e.name with
  | false =>
    rw [C10A.aclset_unselected sel modify remove e hs] at h
    cases h; rfl
  | true =>
    rw [aclsetF_selected sel modify remove e hs] at h
    cases h
    exact aclset_other_platforms modify remove hx e k hk

example : aclSetF (fun n => n == [97]) (some argBobWX) none C10A.exG = some (aclSetE (some argBobWX) none C10A.exG) :=
  aclsetF_selected _ _ _ _ (by decide)
example : aclSetF (fun n => n == [98]) (some argBobWX) none C10A.exG = some C10A.exG :=
  C10A.aclset_unselected _ _ _ _ (by decide)
example : aclSetF (fun n => n == [97]) (some argBobWX) (some argBob) (aclSetE (some argBobWX) (some argBob) C10A.exG)
    = some (aclSetE (some argBobWX) (some argBob) C10A.exG) :=
  aclsetF_idem _ _ _ (argOk_some (by decide)) C10A.exG _ (aclsetF_selected _ _ _ _ (by decide))
example : aclList (aclSetE (some argBobWX) none C10A.exG).extras "linux".toList = aclList C10A.exG.extras "linux".toList :=
  aclsetF_other_platforms (fun n => n == [97]) _ _ (argOk_some (by decide)) C10A.exG _
    (aclsetF_selected _ _ _ _ (by decide)) _ (by decide)

#print axioms aclset_readback
#print axioms aclset_other_platforms
#print axioms aclset_general_list
#print axioms modifyFirst_pointwise
#print axioms aclset_modify_semantics
#print axioms aclset_modify_match
#print axioms aclset_remove_semantics
#print axioms aclset_noedit_migrate
#print axioms aclset_remove_nomatch_migrate
#print axioms aclset_remove_nomatch_map
#print axioms aclUpd_idem
#print axioms aclset_idem
#print axioms aclset_idem_needs_ArgOk
#print axioms aclset_idem_needs_ArgOk_colon
#print axioms other_platforms_needs_ArgOk
#print axioms aclsetF_selected
#print axioms aclsetF_idem
#print axioms aclsetF_other_platforms

end Pna.C10AS
