import PnaVerif.Model.Toy
import PnaVerif.Lemmas.WrongKey
import PnaVerif.Lemmas.Toy
import PnaVerif.Lemmas.Outcome
/-!
# C16 — "only the right password reads an encrypted entry": the exact characterisation

A different password reaches the reader as a different key `k2` (through the KDF, a parameter of
the model).  The block cipher is a parameter too; nothing is assumed of it beyond `D k` inverting
`E k` on 16-byte blocks (`BlockPerm.Lawful`, and for CTR not even that).  So the honest statement is
a characterisation: **the wrong key reads the original content exactly when the two keyed ciphers
agree on everything that was actually used** —

* CTR: the keystreams of `k` and `k2` coincide on `[0, content length)`
  (`ctr_wrong_key_iff`, `ctr_store_wrong_key_iff`); if they differ at a position the output
  differs from the content *at that position* (`ctr_wrong_key_differs`).  The degenerate case
  is the recorded finding `C16-empty-ctr-store`: empty content ⇒ empty range ⇒ every key reads
  it (`empty_ctr_any_key`);
* CBC: the decryptors `D k2` and `D k` coincide on every cipher-text block that was written
  (`cbc_store_wrong_key_iff`); otherwise the read fails with a padding error or returns other
  bytes (`cbc_store_wrong_key_differs`);
* whatever the key and the stored bytes, reading never panics (`never_panics_wrong_key`).

For a real cipher (AES/Camellia) the right-hand sides hold only with negligible probability
(or for the empty CTR content); that part is outside the model and sampled by the harness.
Non-vacuity: the toy permutation of `Model/Toy.lean` with two keys whose ciphers differ, a key
that differs only outside the bytes the toy cipher consults, and a key with a valid wrong padding.
-/
namespace Pna.C16K
open Pna

def kA : Bytes := (List.range 32).map fun i => UInt8.ofNat (7 * i + 3)
/-- another key: the toy cipher differs -/
def kB : Bytes := (List.range 32).map fun i => UInt8.ofNat (5 * i + 11)
/-- `kA` with its first byte zeroed: under CBC the padding happens to stay valid -/
def kC : Bytes := kA.set 0 0
/-- a key that differs from `kA` only beyond the 32 bytes the toy cipher looks at -/
def kA2 : Bytes := kA ++ [9]
def ivX : Bytes := (List.range 16).map fun i => UInt8.ofNat (i + 1)
/-- five bytes written in three calls, one of them empty -/
def wsX : List Bytes := [[1, 2, 3], [], [4, 5]]
/-- twenty bytes (two CBC blocks once padded) in two calls -/
def wsY : List Bytes := [(List.range 17).map UInt8.ofNat, [30, 31, 32]]

theorem toy_kA2 : Toy.perm.E kA2 = Toy.perm.E kA ∧ Toy.perm.D kA2 = Toy.perm.D kA :=
  Toy.perm_append_key kA [9] (by decide)

/-- The CTR layer alone; no assumption on the cipher. -/
theorem ctr_wrong_key_iff (P : BlockPerm) (k k2 iv pt : Bytes) :
    ctrApply P k2 iv 0 (ctrApply P k iv 0 pt) = pt ↔
      ∀ i, i < pt.length → ctrKeystream P k iv i = ctrKeystream P k2 iv i := by
  have h := wk_ctr_wrong_key_iff_pos P k k2 iv 0 pt
  simp only [Nat.zero_add] at h
  exact h

-- → direction, instantiated: the wrong key does not give the plaintext, so the keystreams differ somewhere
example : ctrApply Toy.perm kB ivX 0 (ctrApply Toy.perm kA ivX 0 [1, 2, 3, 4, 5]) = [217, 56, 199, 22, 101] := by
  decide +kernel
example : ¬ ∀ i, i < ([1, 2, 3, 4, 5] : Bytes).length →
    ctrKeystream Toy.perm kA ivX i = ctrKeystream Toy.perm kB ivX i := by
  rw [← ctr_wrong_key_iff]; decide +kernel
-- ← direction, instantiated with a different key whose keystream is the same
example : kA2 ≠ kA ∧ ∀ i, i < 40 → ctrKeystream Toy.perm kA ivX i = ctrKeystream Toy.perm kA2 ivX i :=
  ⟨by decide, fun i _ => by rw [ctrKeystream, ctrKeystream, toy_kA2.1]⟩
example : ctrApply Toy.perm kA2 ivX 0 (ctrApply Toy.perm kA ivX 0 wsY.flatten) = wsY.flatten :=
  (ctr_wrong_key_iff Toy.perm kA kA2 ivX wsY.flatten).mpr fun i _ => by
    rw [ctrKeystream, ctrKeystream, toy_kA2.1]

/-- `i < pt.length` already says `pt ≠ []`. -/
theorem ctr_wrong_key_differs (P : BlockPerm) (k k2 iv pt : Bytes) (i : Nat) (hi : i < pt.length)
    (hne : ctrKeystream P k iv i ≠ ctrKeystream P k2 iv i) :
    (ctrApply P k2 iv 0 (ctrApply P k iv 0 pt)).length = pt.length ∧
    (ctrApply P k2 iv 0 (ctrApply P k iv 0 pt))[i]? ≠ pt[i]? ∧
    ctrApply P k2 iv 0 (ctrApply P k iv 0 pt) ≠ pt := by
  have hq : (ctrApply P k2 iv 0 (ctrApply P k iv 0 pt))[i]? ≠ pt[i]? := by
    rw [wk_ctr_two_keys_getElem?, List.getElem?_eq_getElem hi, Option.map_some, Nat.zero_add]
    exact fun h => hne ((UInt8.xor_xor_eq_self_iff _ _ _).mp (Option.some.inj h))
  exact ⟨by rw [ctrApply_length, ctrApply_length], hq, fun h => hq (by rw [h])⟩

/-- the same with the bytes themselves instead of `[i]?` -/
theorem ctr_wrong_key_differs_at (P : BlockPerm) (k k2 iv pt : Bytes) (i : Nat) (hi : i < pt.length)
    (hne : ctrKeystream P k iv i ≠ ctrKeystream P k2 iv i) :
    ∃ h : i < (ctrApply P k2 iv 0 (ctrApply P k iv 0 pt)).length,
      (ctrApply P k2 iv 0 (ctrApply P k iv 0 pt))[i] ≠ pt[i] := by
  have hi2 : i < (ctrApply P k2 iv 0 (ctrApply P k iv 0 pt)).length := by
    rw [ctrApply_length, ctrApply_length]; exact hi
  refine ⟨hi2, fun h => (ctr_wrong_key_differs P k k2 iv pt i hi hne).2.1 ?_⟩
  rw [List.getElem?_eq_getElem hi2, List.getElem?_eq_getElem hi, h]

-- the hypotheses hold for the toy cipher with kA / kB at position 3 of a 5-byte plaintext
example : (3 < ([1, 2, 3, 4, 5] : Bytes).length) ∧
    ctrKeystream Toy.perm kA ivX 3 ≠ ctrKeystream Toy.perm kB ivX 3 := by decide +kernel
example : (ctrApply Toy.perm kB ivX 0 (ctrApply Toy.perm kA ivX 0 [1, 2, 3, 4, 5]))[3]? = some 22 ∧
    ([1, 2, 3, 4, 5] : Bytes)[3]? = some 4 := by decide +kernel

/-- A stored CTR entry written with `k` (store codec, any 16-byte IV, ANY partition of
    the content into write calls) is read back as the original content by `k2` exactly when the
    keystreams of `k` and `k2` under the stored IV agree on `[0, content length)`. -/
theorem ctr_store_wrong_key_iff (P : BlockPerm) (k k2 iv : Bytes) (hiv : iv.length = 16) (ws : List Bytes) :
    readData P storeCompressor .ctr k2 (buildData P storeCompressor .ctr k iv ws) = .ok ws.flatten ↔
      ∀ i, i < ws.flatten.length → ctrKeystream P k iv i = ctrKeystream P k2 iv i := by
  rw [ctr_store_wrong_key_reads P k k2 iv hiv ws, ← ctr_wrong_key_iff]
  exact ⟨fun h => Outcome.ok.inj h, fun h => by rw [h]⟩

/-- the same for the streaming writer (`Archive::write_file`: the IV as its own chunk) -/
theorem ctr_stream_wrong_key_iff (P : BlockPerm) (k k2 iv : Bytes) (hiv : iv.length = 16) (ws : List Bytes) :
    readData P storeCompressor .ctr k2 (streamData P storeCompressor .ctr k iv ws) = .ok ws.flatten ↔
      ∀ i, i < ws.flatten.length → ctrKeystream P k iv i = ctrKeystream P k2 iv i := by
  rw [← readData_congr P _ .ctr k2 _ _ (buildData_flatten_eq_streamData P storeCompressor .ctr k iv ws)]
  exact ctr_store_wrong_key_iff P k k2 iv hiv ws

example : ivX.length = 16 := by decide
-- kB does not read what kA wrote …
example : readData Toy.perm storeCompressor .ctr kB (buildData Toy.perm storeCompressor .ctr kA ivX wsX)
    = .ok [217, 56, 199, 22, 101] := by decide +kernel
-- … and a key with different bytes but the same toy cipher does, through the ← direction
example : readData Toy.perm storeCompressor .ctr kA2 (buildData Toy.perm storeCompressor .ctr kA ivX wsY)
    = .ok wsY.flatten :=
  (ctr_store_wrong_key_iff Toy.perm kA kA2 ivX (by decide) wsY).mpr fun i _ => by
    rw [ctrKeystream, ctrKeystream, toy_kA2.1]

/-- Known finding `C16-empty-ctr-store`, as the degenerate case of the characterisation:
    when the content is empty (no write call, or only empty ones) the range `[0, 0)` is empty,
    so EVERY key reads the entry as the original (empty) content. -/
theorem empty_ctr_any_key (P : BlockPerm) (k iv : Bytes) (hiv : iv.length = 16) (ws : List Bytes)
    (hws : ws.flatten = []) (k2 : Bytes) :
    readData P storeCompressor .ctr k2 (buildData P storeCompressor .ctr k iv ws) = .ok ws.flatten := by
  rw [ctr_store_wrong_key_iff P k k2 iv hiv ws, hws]
  intro i hi
  exact absurd hi (Nat.not_lt_zero i)

example : readData Toy.perm storeCompressor .ctr kB (buildData Toy.perm storeCompressor .ctr kA ivX [[], []])
    = .ok [] := empty_ctr_any_key Toy.perm kA ivX (by decide) [[], []] rfl kB
example : buildData Toy.perm storeCompressor .ctr kA ivX [] = [ivX] := by decide +kernel

/-- The negative side.  Non-empty content and keystreams that differ at a position `i` of
    the content: the wrong key gets `ok` of bytes of the same length that differ from the content
    at position `i` — never the content. -/
theorem ctr_store_wrong_key_differs (P : BlockPerm) (k k2 iv : Bytes) (hiv : iv.length = 16) (ws : List Bytes)
    (i : Nat) (hi : i < ws.flatten.length) (hne : ctrKeystream P k iv i ≠ ctrKeystream P k2 iv i) :
    ∃ out, readData P storeCompressor .ctr k2 (buildData P storeCompressor .ctr k iv ws) = .ok out ∧
      out.length = ws.flatten.length ∧ out[i]? ≠ ws.flatten[i]? ∧ out ≠ ws.flatten :=
  ⟨_, ctr_store_wrong_key_reads P k k2 iv hiv ws, ctr_wrong_key_differs P k k2 iv ws.flatten i hi hne⟩

/-- in particular: non-empty content and keystreams that differ at position 0 — the first byte read is already wrong -/
theorem ctr_store_wrong_key_differs_zero (P : BlockPerm) (k k2 iv : Bytes) (hiv : iv.length = 16)
    (ws : List Bytes) (hne0 : ws.flatten ≠ []) (hne : ctrKeystream P k iv 0 ≠ ctrKeystream P k2 iv 0) :
    ∃ out, readData P storeCompressor .ctr k2 (buildData P storeCompressor .ctr k iv ws) = .ok out ∧
      out ≠ ws.flatten := by
  obtain ⟨out, h1, _, _, h4⟩ :=
    ctr_store_wrong_key_differs P k k2 iv hiv ws 0 (List.length_pos_iff.mpr hne0) hne
  exact ⟨out, h1, h4⟩

example : wsX.flatten ≠ [] ∧ ctrKeystream Toy.perm kA ivX 0 ≠ ctrKeystream Toy.perm kB ivX 0 := by
  decide +kernel

example : readData Toy.perm storeCompressor .ctr kB (streamData Toy.perm storeCompressor .ctr kA ivX wsX)
    = .ok [217, 56, 199, 22, 101] := by decide +kernel

theorem cbc_store_wrong_key_reads (P : BlockPerm) (k k2 iv : Bytes) (hiv : iv.length = 16) (ws : List Bytes) :
    readData P storeCompressor .cbc k2 (buildData P storeCompressor .cbc k iv ws)
      = cbcDecrypt P k2 iv (cbcWriterRun P k iv ws).flatten := by
  rw [readData_enc P storeCompressor .cbc k2 _ iv _ (by decide)
    (buildData_flatten P storeCompressor .cbc k iv ws (by decide)) hiv]
  show (match cbcDecrypt P k2 iv (cbcWriterRun P k iv ws).flatten with
    | .ok plain => Outcome.ok plain | .error e => .error e | .panic s => .panic s) = _
  cases cbcDecrypt P k2 iv (cbcWriterRun P k iv ws).flatten <;> rfl

/-- A stored CBC entry written with `k` (lawful cipher, store codec, 16-byte IV, any
    partition of the content into write calls) is read back as the original content by `k2`
    exactly when the decryptors of `k2` and `k` agree on every cipher-text block that was
    written.  (→ is the security-relevant direction: a wrong key that yields the original must
    decrypt every written block like the right key.) -/
theorem cbc_store_wrong_key_iff (P : BlockPerm) (hP : P.Lawful) (k k2 iv : Bytes) (hiv : iv.length = 16)
    (ws : List Bytes) :
    readData P storeCompressor .cbc k2 (buildData P storeCompressor .cbc k iv ws) = .ok ws.flatten ↔
      ∀ c ∈ cbcWriterRun P k iv ws, P.D k2 c = P.D k c := by
  rw [cbc_store_wrong_key_reads P k k2 iv hiv ws]
  exact wk_cbc_wrong_key_iff P hP k k2 iv hiv ws

theorem cbc_stream_wrong_key_iff (P : BlockPerm) (hP : P.Lawful) (k k2 iv : Bytes) (hiv : iv.length = 16)
    (ws : List Bytes) :
    readData P storeCompressor .cbc k2 (streamData P storeCompressor .cbc k iv ws) = .ok ws.flatten ↔
      ∀ c ∈ cbcWriterRun P k iv ws, P.D k2 c = P.D k c := by
  rw [← readData_congr P _ .cbc k2 _ _ (buildData_flatten_eq_streamData P storeCompressor .cbc k iv ws)]
  exact cbc_store_wrong_key_iff P hP k k2 iv hiv ws

/-- the same, with the blocks taken from the stored stream itself -/
theorem cbc_store_wrong_key_iff_stored (P : BlockPerm) (hP : P.Lawful) (k k2 iv : Bytes) (hiv : iv.length = 16)
    (ws : List Bytes) :
    readData P storeCompressor .cbc k2 (buildData P storeCompressor .cbc k iv ws) = .ok ws.flatten ↔
      ∀ c ∈ toBlocks ((buildData P storeCompressor .cbc k iv ws).flatten.drop 16), P.D k2 c = P.D k c := by
  -- cutting what follows the IV into blocks gives the writer's inner writes back
  have hb : toBlocks ((buildData P storeCompressor .cbc k iv ws).flatten.drop 16)
      = cbcWriterRun P k iv ws := by
    rw [buildData_flatten P storeCompressor .cbc k iv ws (by decide), List.drop_left' hiv]
    exact toBlocks_flatten _ (cbcWriterRun_all16 P k hP iv hiv ws)
  rw [hb]
  exact cbc_store_wrong_key_iff P hP k k2 iv hiv ws

-- hypotheses: the toy cipher is lawful; two written blocks
example : Toy.perm.Lawful := Capstone.toy_lawful
example : (cbcWriterRun Toy.perm kA ivX wsY).length = 2 := by decide +kernel
-- → instantiated: kB does not read the original, so its decryptor differs on a written block
example : readData Toy.perm storeCompressor .cbc kB (buildData Toy.perm storeCompressor .cbc kA ivX wsY)
    = .error .invalidData := by decide +kernel
example : ¬ ∀ c ∈ cbcWriterRun Toy.perm kA ivX wsY, Toy.perm.D kB c = Toy.perm.D kA c := by
  rw [← cbc_store_wrong_key_iff Toy.perm Capstone.toy_lawful kA kB ivX (by decide) wsY]
  decide +kernel
-- ← instantiated: a key with different bytes whose decryptor agrees on the written blocks
example : kA2 ≠ kA ∧ ∀ c ∈ cbcWriterRun Toy.perm kA ivX wsY, Toy.perm.D kA2 c = Toy.perm.D kA c :=
  ⟨by decide, fun c _ => by rw [toy_kA2.2]⟩
example : readData Toy.perm storeCompressor .cbc kA2 (buildData Toy.perm storeCompressor .cbc kA ivX wsY)
    = .ok wsY.flatten :=
  (cbc_store_wrong_key_iff Toy.perm Capstone.toy_lawful kA kA2 ivX (by decide) wsY).mpr fun c _ => by
    rw [toy_kA2.2]

/-- The negative side.  If the decryptors differ on some written block, the wrong key fails
    with a padding error or produces bytes different from the content. -/
theorem cbc_store_wrong_key_differs (P : BlockPerm) (hP : P.Lawful) (k k2 iv : Bytes) (hiv : iv.length = 16)
    (ws : List Bytes) (c : Bytes) (hc : c ∈ cbcWriterRun P k iv ws) (hne : P.D k2 c ≠ P.D k c) :
    readData P storeCompressor .cbc k2 (buildData P storeCompressor .cbc k iv ws) = .error .invalidData ∨
      ∃ out, readData P storeCompressor .cbc k2 (buildData P storeCompressor .cbc k iv ws) = .ok out ∧
        out ≠ ws.flatten := by
  rw [cbc_store_wrong_key_reads P k k2 iv hiv ws]
  -- whole blocks, at least one: the only possible failure is the padding
  have hc := cbcDecrypt_cases P k2 iv _ (cbcEncrypt_ne_nil P hP k iv ws.flatten hiv)
    (by rw [cbcEncrypt_length P hP k iv _ hiv, Nat.mul_mod_right])
  rw [← cbcWriterRun_flatten] at hc
  rcases hc with h | ⟨out, h⟩
  · exact Or.inl h
  · refine Or.inr ⟨out, h, ?_⟩
    intro ho
    rw [ho] at h
    exact hne ((wk_cbc_wrong_key_iff P hP k k2 iv hiv ws).mp h c hc)

-- both outcomes occur with the toy cipher: kB fails at the padding (above), kC returns other bytes
example : ∃ c ∈ cbcWriterRun Toy.perm kA ivX wsX, Toy.perm.D kC c ≠ Toy.perm.D kA c := by decide +kernel
example : readData Toy.perm storeCompressor .cbc kC (buildData Toy.perm storeCompressor .cbc kA ivX wsX)
    = .ok [1, 1, 3, 4, 5] ∧ wsX.flatten = [1, 2, 3, 4, 5] := by decide +kernel
example : readData Toy.perm storeCompressor .cbc kB (buildData Toy.perm storeCompressor .cbc kA ivX wsX)
    = .error .invalidData := by decide +kernel

/-- For every cipher, every key (right or wrong), every cipher mode and EVERY list of
    stored slices (valid, truncated, garbage), reading stored data never panics, as long as the
    codec does not (third-party `Result`s): the reference layers never do.  No law of the cipher
    is needed. -/
theorem never_panics_wrong_key_codec (P : BlockPerm) (C : Compressor) (hC : ∀ b m, C.decomp b ≠ .panic m)
    (sel : CipherSel) (k2 : Bytes) (slices : List Bytes) (m : String) :
    readData P C sel k2 slices ≠ .panic m := by
  cases sel with
  | none => exact hC _ m
  | cbc =>
    simp only [readData, decryptStream]
    split
    · intro h; cases h
    · cases hd : cbcDecrypt P k2 (slices.flatten.take 16) (slices.flatten.drop 16) with
      | ok p => exact hC p m
      | error e => intro h; cases h
      | panic s => exact absurd hd (cbcr_cbcDecrypt_no_panic P k2 _ _ s)
  | ctr =>
    simp only [readData, decryptStream]
    split
    · intro h; cases h
    · exact hC _ m

/-- in particular for stored (uncompressed) data -/
theorem never_panics_wrong_key (P : BlockPerm) (sel : CipherSel) (k2 : Bytes) (slices : List Bytes)
    (m : String) : readData P storeCompressor sel k2 slices ≠ .panic m :=
  never_panics_wrong_key_codec P storeCompressor (fun _ _ h => by cases h) sel k2 slices m

/-- in the `isPanic` form used by the other no-panic theorems -/
theorem never_panics_wrong_key_isPanic (P : BlockPerm) (sel : CipherSel) (k2 : Bytes) (slices : List Bytes) :
    (readData P storeCompressor sel k2 slices).isPanic = false :=
  isPanic_eq_false_iff.mpr (never_panics_wrong_key P sel k2 slices)

-- garbage, a truncated stream and a wrong key: errors or bytes, never a panic
example : readData Toy.perm storeCompressor .cbc kB [[1, 2, 3]] = .error .eof := by decide +kernel
example : readData Toy.perm storeCompressor .cbc kB [ivX, [1, 2, 3]] = .error .eof := by decide +kernel
example : readData Toy.perm storeCompressor .cbc kB [ivX, ivX] = .error .invalidData := by decide +kernel
example : readData Toy.perm storeCompressor .ctr kB [ivX, [1, 2, 3]] = .ok [162, 250, 238] := by decide +kernel

end Pna.C16K
