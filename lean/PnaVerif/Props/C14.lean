import PnaVerif.Lemmas.EntryRt
import PnaVerif.Lemmas.Multipart
/-!
# C14 — everything the tool writes is well-formed PNA that an independent reader decodes
The model's *decoder* (`chunksStream`, `readArchiveStream`) is the strict reference reader: it
was written from the format description (signature, chunk framing with CRC, AHED first, entries
closed by FEND/SEND, ANXT, AEND last).  For every output of the writers:
* `written_chunks_wellformed` — the bytes tokenise, chunk by chunk (valid length, type, CRC),
  into exactly AHED(part number), the entries' chunks, [ANXT], AEND; `nothing_read_after_AEND` —
  trailing bytes are never consumed;
* `strict_decoder_agrees` — decoding gives back exactly the entries written (data re-cut the way
  the serialiser cuts it, `ReadEntry.recut`), a clean end, the continuation flag and no left-over
  chunks;
* `raw_copy_is_identity` — copying raw items re-encodes to the same bytes;
* `part_files_wellformed` — a part file (`encodePartFile i n body`, `body` free of ANXT/AEND)
  tokenises into AHED(i) ++ body ++ [ANXT iff i + 1 < n] ++ AEND; that the part files of a split
  are within the size limit is `C04.parts_le_max`;
* `chunk_len_u32` — the length field of a chunk whose payload is < 2^32 is exact; that the
  chunks of written entries are such is the third conjunct of `Capstone.written_entries_ok`.
Decryption/decompression with primitive crates only (the other half of "independent reader")
is `harness/src/refdec.rs`, run on every archive the C01/C02/C04/C10/C11 families produce.
-/
namespace Pna.C14
open Pna

theorem written_chunks_wellformed (n : Nat) (items : List (List Chunk)) (hw : ∀ it ∈ items, ItemWF it)
    (hfit : ChunksFit items.flatten) (next : Bool) :
    chunksStream (encodeArchive n items next)
      = (⟨ChunkType.AHED, encAHED ⟨0, 0, n⟩⟩ ::
          (items.flatten ++ (if next then [⟨ChunkType.ANXT, []⟩] else []) ++ [⟨ChunkType.AEND, []⟩]), .ok ()) :=
  chunksStream_encodeArchive n items hw hfit next

theorem strict_decoder_agrees (n : Nat) (hn : n < 2 ^ 32) (es : List ReadEntry) (hw : ∀ e ∈ es, e.WF)
    (hx : ∀ e ∈ es, NoMarkers e.extra) (hfit : ChunksFit (es.flatMap serEntry)) (next : Bool) :
    let r := readArchiveStream (encodeArchive n (es.map serEntry) next)
    r.entries = es.map ReadEntry.recut ∧ r.status = .ok () ∧ r.next = next ∧ r.carry = [] ∧
      r.header = some ⟨0, 0, n⟩ ∧ r.rawItems = es.map serEntry :=
  readArchive_encode n hn es hw hx hfit next

theorem raw_copy_is_identity (n : Nat) (hn : n < 2 ^ 32) (items : List (List Chunk)) (hw : ∀ it ∈ items, ItemWF it)
    (hfit : ChunksFit items.flatten) :
    encodeArchive n (rawEntriesWith chunksStream (encodeArchive n items false)).1 false = encodeArchive n items false :=
  (raw_copy_exact n hn items hw hfit).2

/-- trailing bytes after AEND are never read: the end marker is last as far as any reader sees -/
theorem nothing_read_after_AEND (cs : List Chunk) (junk : Bytes) (hfit : ChunksFit cs) (hno : ∀ c ∈ cs, c.ty ≠ ChunkType.AEND) :
    chunksStream (signature ++ encodeChunks cs ++ (Chunk.mk ChunkType.AEND []).encode ++ junk)
      = chunksStream (signature ++ encodeChunks cs ++ (Chunk.mk ChunkType.AEND []).encode ++ []) := by
  rw [chunksStream_encode cs junk hfit hno, chunksStream_encode cs [] hfit hno]

/-- the tokens of ONE part file.  Which number a part gets is not said here: `encodeParts` uses the index
    (`C04M.encodeParts_getElem`), so the numbers are consecutive by construction. -/
theorem part_files_wellformed (i n : Nat) (body : List Chunk) (hfit : ChunksFit body)
    (hno : ∀ c ∈ body, c.ty ≠ ChunkType.AEND ∧ c.ty ≠ ChunkType.ANXT) :
    chunksStream (encodePartFile i n body)
      = ([⟨ChunkType.AHED, encAHED ⟨0, 0, i⟩⟩] ++ body ++ (if i + 1 < n then [⟨ChunkType.ANXT, []⟩] else [])
          ++ [⟨ChunkType.AEND, []⟩], .ok ()) :=
  chunksStream_partFile i n body hfit fun c hc => ⟨(hno c hc).2, (hno c hc).1⟩

/-- `h` is a hypothesis here; for the chunks of written entries it is the third conjunct of
    `Capstone.written_entries_ok` (data is cut at u32::MAX, every other payload is small). -/
theorem chunk_len_u32 (c : Chunk) (h : c.data.length < 2 ^ 32) :
    fromBe (c.encode.take 4) = c.data.length := by
  unfold Chunk.encode
  rw [List.append_assoc, List.append_assoc, List.take_left' (be32_length _), fromBe_be32_lt h]

-- the empty archive the library writes (`ConstsTie.empty_archive_eq`: the regenerated constant) is well-formed
example : (chunksStream (encodeArchive 0 [] false)).2 = .ok () := by decide +kernel

end Pna.C14
