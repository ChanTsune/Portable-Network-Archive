import PnaVerif.Lemmas.Flatten
import PnaVerif.Lemmas.Ctr
import PnaVerif.Lemmas.CbcWriter
import PnaVerif.Lemmas.CbcReader
import PnaVerif.Lemmas.PipelineData
/-!
# C01 — the library round trip is lossless for every writer, codec and cipher configuration

Data path.  For every block cipher whose `D` inverts `E` on 16-byte blocks (`BlockPerm.Lawful`;
AES-256 and Camellia-256 are instances), every codec obeying the round-trip law
(`Compressor.Lawful`; store/deflate/zstd/xz), every key, every 16-byte IV, **every partition of
the payload into `write` calls** and **every schedule of `read` buffer sizes**:

* `cbc_writer_partition_independent` / `ctr_writer_partition_independent` — what is written
  depends only on the concatenation of the writes;
* `cbc_reader_schedule_independent` / `flatten_reader_schedule_independent` — what is read does
  not depend on the buffer sizes, for *any* stored byte string (valid or not);
* `roundtrip_builder` / `roundtrip_stream` — reading the data an `EntryBuilder`/
  `SolidEntryBuilder` (sink `FlattenWriter`) or `Archive::write_file`/`SolidArchive`
  (sink `ChunkStreamWriter`) produced gives back exactly the bytes written.

Metadata path: `Props/C15.lean` (every codec is an inverse pair) and `Props/C13Entry.lean`
(`parseN (serN e) = .ok e.recut`: the entry, its data slices cut the serialiser's way).  The state
machines in these theorems are the ones the `cipher-sm` family runs against the repository's
generic reader/writer code instantiated with a toy cipher.
-/
namespace Pna.C01
open Pna

/-- CBC writer: the inner writes themselves, not only their concatenation, depend only on the
    concatenation of the `write` calls (no assumption on the cipher).  That they are the reference
    encryption is `cbc_writer_is_cbc`. -/
theorem cbc_writer_partition_independent (P : BlockPerm) (k iv : Bytes) (ws₁ ws₂ : List Bytes)
    (h : ws₁.flatten = ws₂.flatten) : cbcWriterRun P k iv ws₁ = cbcWriterRun P k iv ws₂ := by
  rw [cbcWriterRun_eq, cbcWriterRun_eq, h]

theorem cbc_writer_is_cbc (P : BlockPerm) (k iv : Bytes) (ws : List Bytes) :
    (cbcWriterRun P k iv ws).flatten = cbcEncrypt P k iv ws.flatten := cbcWriterRun_flatten P k iv ws

theorem ctr_writer_partition_independent (P : BlockPerm) (k iv : Bytes) (ws₁ ws₂ : List Bytes)
    (h : ws₁.flatten = ws₂.flatten) :
    (ctrWriterRun P k iv 0 ws₁).flatten = (ctrWriterRun P k iv 0 ws₂).flatten := by
  rw [ctrWriterRun_flatten, ctrWriterRun_flatten, h]

/-- CBC reader: over the same stored ciphertext (valid, truncated or corrupt) two completed
    `read_to_end`s with any schedules of positive buffer sizes return the same, plaintext or error
    kind — both return the reference decryption (`cbcReadAll_sound`).  Of `hP` only `lenD` is used. -/
theorem cbc_reader_schedule_independent (P : BlockPerm) (hP : P.Lawful) (k iv ct : Bytes)
    (s₁ s₂ : List Nat) (h₁ : ∀ n ∈ s₁, 0 < n) (h₂ : ∀ n ∈ s₂, 0 < n) (x₁ x₂ : Outcome Bytes)
    (r₁ : cbcReadAll P k iv ct s₁ = some x₁) (r₂ : cbcReadAll P k iv ct s₂ = some x₂) : x₁ = x₂ := by
  rw [cbcReadAll_sound_of_lawful P hP k iv ct s₁ h₁ x₁ r₁, cbcReadAll_sound_of_lawful P hP k iv ct s₂ h₂ x₂ r₂]

theorem cbc_reader_completes (P : BlockPerm) (hP : P.Lawful) (k iv ct : Bytes) (sched : List Nat)
    (hpos : ∀ n ∈ sched, 0 < n) (hlen : ct.length + 1 < sched.length) :
    cbcReadAll P k iv ct sched = some (cbcDecrypt P k iv ct) :=
  (cbcr_readAll_spec P k (hP.lenD k) iv ct sched hpos).resolve_right fun h => by
    have := h.2
    omega

/-- FlattenReader: `read_to_end` returns the concatenation of the data chunks for every schedule of
    positive buffer sizes with more calls than there are bytes. -/
theorem flatten_reader_schedule_independent (slices : List Bytes) (sched : List Nat)
    (hpos : ∀ n ∈ sched, 0 < n) (hlen : slices.flatten.length < sched.length) :
    FlatR.readToEnd ⟨slices⟩ [] sched = some slices.flatten :=
  (FlatR.readToEnd_spec sched hpos ⟨slices⟩ []).resolve_right fun h => Nat.not_le.mpr hlen h.2

/-- FlattenWriter: stored slices concatenate to the bytes written, whatever the slicing. -/
theorem flatten_writer_lossless (ws : List Bytes) : (flattenWriter maxChunkData ws).flatten = ws.flatten :=
  flattenWriter_flatten maxChunkData maxChunkData_pos ws

theorem take_iv (iv rest : Bytes) (h : iv.length = 16) : (iv ++ rest).take 16 = iv ∧ (iv ++ rest).drop 16 = rest :=
  ⟨List.take_left' h, List.drop_left' h⟩

theorem decrypt_encrypt (P : BlockPerm) (hP : P.Lawful) (sel : CipherSel) (key iv : Bytes) (hiv : iv.length = 16)
    (xs : List Bytes) : decryptStream P sel key iv (cipherWrites P sel key iv xs).flatten = .ok xs.flatten := by
  cases sel with
  | none => rfl
  | cbc =>
    simp only [decryptStream, cipherWrites]
    rw [cbcWriterRun_flatten, cbcDecrypt_cbcEncrypt P hP key iv _ hiv]
  | ctr =>
    simp only [decryptStream, cipherWrites]
    rw [ctrWriterRun_flatten, ctrApply_involutive]

/-- Round trip through the streaming pipeline (`Archive::write_file`, `SolidArchive`): one
    data chunk per inner write, IV as its own chunk — after the `fix:` that finishes the
    compressor and the cipher (before it the `finish` that the model's stages include was never run). -/
theorem roundtrip_stream (P : BlockPerm) (hP : P.Lawful) (C : Compressor) (hC : C.Lawful)
    (sel : CipherSel) (key iv : Bytes) (hiv : iv.length = 16) (ws : List Bytes) :
    readData P C sel key (streamData P C sel key iv ws) = .ok ws.flatten := by
  by_cases hsel : sel = .none
  · subst hsel
    exact hC ws
  · rw [readData_enc P C sel key _ iv _ hsel (streamData_flatten P C sel key iv ws hsel) hiv,
      decrypt_encrypt P hP sel key iv hiv]
    exact hC ws

/-- Re-cutting the stored data (C03): `readData` depends only on the concatenation. -/
theorem readData_recut (P : BlockPerm) (C : Compressor) (sel : CipherSel) (key : Bytes) (s₁ s₂ : List Bytes)
    (h : s₁.flatten = s₂.flatten) : readData P C sel key s₁ = readData P C sel key s₂ :=
  readData_congr P C sel key s₁ s₂ h

/-- Round trip through the builder pipeline (`EntryBuilder`, `SolidEntryBuilder`): the
    builder stores the bytes of the streaming writer, cut differently. -/
theorem roundtrip_builder (P : BlockPerm) (hP : P.Lawful) (C : Compressor) (hC : C.Lawful)
    (sel : CipherSel) (key iv : Bytes) (hiv : iv.length = 16) (ws : List Bytes) :
    readData P C sel key (buildData P C sel key iv ws) = .ok ws.flatten := by
  rw [readData_recut P C sel key _ _ (buildData_flatten_eq_streamData P C sel key iv ws)]
  exact roundtrip_stream P hP C hC sel key iv hiv ws

/-- End-to-end with the reader state machine: writing with any partition and reading with any
    long-enough schedule of positive buffer sizes gives the compressed stream back. -/
theorem cbc_end_to_end (P : BlockPerm) (hP : P.Lawful) (k iv : Bytes) (hiv : iv.length = 16)
    (ws : List Bytes) (sched : List Nat) (hpos : ∀ n ∈ sched, 0 < n)
    (hlen : (cbcWriterRun P k iv ws).flatten.length + 1 < sched.length) :
    cbcReadAll P k iv (cbcWriterRun P k iv ws).flatten sched = some (.ok ws.flatten) := by
  rw [cbc_reader_completes P hP k iv _ sched hpos hlen, cbcWriterRun_flatten,
    cbcDecrypt_cbcEncrypt P hP k iv _ hiv]

/-- The store "codec" is lawful; the hypotheses above are satisfiable. -/
theorem store_lawful : storeCompressor.Lawful := fun _ => rfl

example : (flattenWriter 4 [[1,2,3,4,5],[],[6]]) = [[1,2,3,4],[5],[6]] := by decide +kernel
example : FlatR.readToEnd ⟨[[1,2,3],[],[4]]⟩ [] [2,2,2,2,2] = some [1,2,3,4] := by decide +kernel

end Pna.C01
