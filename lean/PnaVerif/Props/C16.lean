import PnaVerif.Lemmas.Outcome
import PnaVerif.Props.C01
import PnaVerif.Lemmas.WrongKey
/-!
# C16 — only the right password reads an encrypted entry, and it always does
What is proved is the decision logic around the third-party key derivation and ciphers
(`openEntryData` transcribes `decrypt_reader` + `verify_password` + `decompress_reader`):
* no password ⇒ `InvalidInput`; no PHSF ⇒ `InvalidData`; never a panic, whatever the key-derivation
  oracle says (the cipher-layer and codec oracles being panic-free);
* the outcome is a function of the *derived key* only — the password influences it through
  the KDF and nowhere else;
* with the key the writer used, the data reads back (corollary of C01).
The key is a function of the oracle record alone (`deriveKey`), and `openEntryData` looks at the PHSF
and the password only for being present.  That the record is determined by (PHSF, password) — same
PHSF + same password ⇒ same key — is the determinism of the KDF crates: trusted (the harness computes
the record with them), not a theorem here.
"A different password never yields the plaintext" is a statement about AES/Camellia/KDFs and is
sampled by the `roundtrip` family; at one corner it is false by arithmetic
(`empty_ctr_any_key`, known finding `C16-empty-ctr-store`).
-/
namespace Pna.C16
open Pna

theorem no_password (enc mode : Nat) (henc : enc ≠ 0) (phsf : Bytes) (o : PhcOracle) (sl : List Bytes)
    (dec : Bytes → Bytes → Bytes → Outcome Bytes) (decomp : Bytes → Outcome Bytes) :
    openEntryData enc mode (some phsf) none o sl dec decomp = .error .invalidInput := by
  simp [openEntryData, henc]

theorem no_phsf (enc mode : Nat) (henc : enc ≠ 0) (pw : Option Bytes) (o : PhcOracle) (sl : List Bytes)
    (dec : Bytes → Bytes → Bytes → Outcome Bytes) (decomp : Bytes → Outcome Bytes) :
    openEntryData enc mode none pw o sl dec decomp = .error .invalidData := by
  simp [openEntryData, henc]

/-- An unencrypted entry ignores the password altogether. -/
theorem unencrypted_ignores_password (mode : Nat) (phsf pw₁ pw₂ : Option Bytes) (o₁ o₂ : PhcOracle)
    (sl : List Bytes) (dec : Bytes → Bytes → Bytes → Outcome Bytes) (decomp : Bytes → Outcome Bytes) :
    openEntryData 0 mode phsf pw₁ o₁ sl dec decomp = openEntryData 0 mode phsf pw₂ o₂ sl dec decomp := by
  simp [openEntryData]

/-- The password reaches the result only through the derived key. -/
theorem depends_on_key_only (enc mode : Nat) (phsf pw₁ pw₂ : Bytes) (o₁ o₂ : PhcOracle)
    (hk : deriveKey o₁ = deriveKey o₂) (sl : List Bytes)
    (dec : Bytes → Bytes → Bytes → Outcome Bytes) (decomp : Bytes → Outcome Bytes) :
    openEntryData enc mode (some phsf) (some pw₁) o₁ sl dec decomp
      = openEntryData enc mode (some phsf) (some pw₂) o₂ sl dec decomp := by
  simp only [openEntryData, hk]

theorem deriveKey_no_panic (o : PhcOracle) : (deriveKey o).isPanic = false := by
  unfold deriveKey
  refine ite_no_panic _ _ _ rfl ?_
  cases o.alg with
  | other => rfl
  | _ =>
    refine ite_no_panic _ _ _ rfl (ite_no_panic _ _ _ rfl (ite_no_panic _ _ _ rfl ?_))
    cases o.key <;> rfl

/-- Reading never panics, whatever password, PHSF, key-derivation answer and stored bytes,
    provided the cipher-layer and codec oracles do not (they are third-party `Result`s). -/
theorem open_no_panic (enc mode : Nat) (phsf pw : Option Bytes) (o : PhcOracle) (sl : List Bytes)
    (dec : Bytes → Bytes → Bytes → Outcome Bytes) (decomp : Bytes → Outcome Bytes)
    (hdec : ∀ k iv ct, (dec k iv ct).isPanic = false) (hdc : ∀ b, (decomp b).isPanic = false) :
    (openEntryData enc mode phsf pw o sl dec decomp).isPanic = false := by
  unfold openEntryData
  refine ite_no_panic _ _ _ (hdc _) ?_
  cases phsf with
  | none => rfl
  | some p =>
    cases pw with
    | none => rfl
    | some w =>
      have hk := deriveKey_no_panic o
      cases hd : deriveKey o with
      | error e => rfl
      | panic s => rw [hd] at hk; cases hk
      | ok key =>
        -- every leaf below is an error or `dec … |> decomp`
        have hread := match_no_panic (dec key (sl.flatten.take 16) (sl.flatten.drop 16)) decomp
          (hdec key _ _) hdc
        refine ite_no_panic _ _ _ rfl (ite_no_panic _ _ _ ?_ ?_)
        · exact ite_no_panic _ _ _ rfl (ite_no_panic _ _ _ rfl hread)
        · exact ite_no_panic _ _ _ rfl hread

/-- With the key the writer used, every configuration reads back (C01 corollary).  That the reader
    derives this key from the recorded PHSF and the password is the KDF oracle's part and is not
    stated here. -/
theorem right_key_reads (P : BlockPerm) (hP : P.Lawful) (C : Compressor) (hC : C.Lawful)
    (sel : CipherSel) (key iv : Bytes) (hiv : iv.length = 16) (ws : List Bytes) :
    readData P C sel key (buildData P C sel key iv ws) = .ok ws.flatten ∧
    readData P C sel key (streamData P C sel key iv ws) = .ok ws.flatten :=
  ⟨C01.roundtrip_builder P hP C hC sel key iv hiv ws, C01.roundtrip_stream P hP C hC sel key iv hiv ws⟩

/-- The corner where the negative direction is false: CTR + store + empty plaintext.  The
    stored data is just the IV; *every* key "reads" the (empty) original content. -/
theorem empty_ctr_any_key (P : BlockPerm) (key iv : Bytes) (hiv : iv.length = 16) :
    readData P storeCompressor .ctr key (buildData P storeCompressor .ctr key iv []) = .ok [] ∧
    ∀ key', readData P storeCompressor .ctr key' (buildData P storeCompressor .ctr key iv []) = .ok [] :=
  ⟨ctr_store_wrong_key_reads P key key iv hiv [], fun key' => ctr_store_wrong_key_reads P key key' iv hiv []⟩

example : openEntryData 1 0 (some [36]) none ⟨true, .pbkdf2, true, true, true, some []⟩ [[1]]
    (fun _ _ _ => .ok []) (fun b => .ok b) = .error .invalidInput := by decide

end Pna.C16
