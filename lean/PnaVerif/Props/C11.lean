import PnaVerif.Lemmas.CliUpdate
/-!
# C11 — append and update never lose or duplicate entries
Model: `Cli.appendOp`, `Cli.updateOp` (the scan over the old archive transcribed from update.rs
after the `fix:` commits `b4af50a4`, `45540250`: the walker's result is de-duplicated by entry
name, and every later archived entry of a re-created name is left out), `Cli.deleteOp`, on ordered
entry lists.

Except where name uniqueness is the subject (`step_invariant`, `history_invariant`,
`legacy_agrees_on_unique_names`) the theorems hold for EVERY archive (a path may be archived several
times — each `append` of an archived path adds an entry), EVERY walker result (overlapping
arguments yield a path several times), every exclusion set and every time filter.  Hence they hold
for the archive reached by any sequence of operations (`history_*`) and no invariant on histories
is needed.

"Every named path that exists on disk is present exactly once with its current contents" is
`update_current_contents`, under `hcur`: the FIRST archived entry of the name (if any) is neither
excluded nor filtered out by the time condition — the scan decides on that entry alone.  Where
`hcur` fails all archived entries of the name are kept and the target is not written
(`update_filtered_keeps_old`).  A second identical update yields the same entries
(`update_idempotent_entries`), and the same list when the targets agree on being re-created
(`update_idempotent_exact`; in general the order changes, `update_twice_exact`).
`legacy_*`: the two inputs on which update.rs before those commits violates the property.
-/
namespace Pna.C11
open Pna Pna.Cli

theorem append_keeps_prefix (a ts : List UEntry) :
    appendOp a ts = a ++ ts ∧ (appendOp a ts).take a.length = a ∧ (appendOp a ts).drop a.length = ts :=
  append_spec a ts

example : appendOp [⟨[1],[10]⟩, ⟨[1],[11]⟩] [⟨[1],[12]⟩] = [⟨[1],[10]⟩, ⟨[1],[11]⟩, ⟨[1],[12]⟩] := by
  decide

theorem update_keeps_untargeted (excl : Bytes → Bool) (need : UEntry → Bool) (a ts : List UEntry) :
    (updateOp excl need a ts).filter (fun e => !(names ts).contains e.name) =
      a.filter (fun e => !(names ts).contains e.name) := by
  have hnil : (newPart excl need a ts).filter (fun e => !(names ts).contains e.name) = [] :=
    List.filter_eq_nil_iff.2 fun x hx => by simp [mem_names_of_find (mem_newPart hx)]
  rw [updateOp_eq, List.filter_append, hnil, List.append_nil, keptPart, List.filter_filter]
  apply List.filter_congr
  intro x _
  by_cases hx : x.name ∈ names ts <;> simp [hx, recreated]

/-- duplicates on both sides; the untargeted `[5]` (twice) and `[6]` stay, in order -/
example : (updateOp (fun _ => false) (fun _ => true)
      [⟨[5],[50]⟩, ⟨[2],[1]⟩, ⟨[5],[51]⟩, ⟨[2],[2]⟩, ⟨[6],[60]⟩] [⟨[2],[21]⟩, ⟨[2],[22]⟩]).filter
        (fun e => !(names [⟨[2],[21]⟩, ⟨[2],[22]⟩]).contains e.name) =
    [⟨[5],[50]⟩, ⟨[5],[51]⟩, ⟨[6],[60]⟩] := by decide

/-- The entry is the FIRST target of the name; that is the current contents because `create_entry`
    reads the same file for every occurrence of a path in the walker's result. -/
theorem update_current_contents (excl : Bytes → Bool) (need : UEntry → Bool) (a ts : List UEntry)
    (t : UEntry) (h : t ∈ ts)
    (hcur : ∀ e, a.find? (·.name == t.name) = some e → (excl e.name = false ∧ need e = true)) :
    ∃ t0, ts.find? (·.name == t.name) = some t0 ∧ t0 ∈ updateOp excl need a ts ∧
      (updateOp excl need a ts).filter (fun e => e.name == t.name) = [t0] := by
  cases h0 : ts.find? (·.name == t.name) with
  | none => exact absurd (mem_names_of_mem h) (find_name_eq_none.1 h0)
  | some t0 =>
    have hx : withName t.name (updateOp excl need a ts) = [t0] := by
      rw [update_withName, h0]
      cases hfa : a.find? (·.name == t.name) with
      | none => simp [recreated, hfa, find_name_eq_none.1 hfa, withName_eq_nil.2]
      | some e => rw [if_pos (recreated_iff.2 ⟨mem_names_of_find h0, e, hfa, hcur e hfa⟩)]; rfl
    exact ⟨t0, rfl, (List.mem_filter.1 (hx ▸ List.mem_singleton_self t0)).1, hx⟩

theorem update_each_target_once (excl : Bytes → Bool) (need : UEntry → Bool) (a ts : List UEntry)
    (t : UEntry) (h : t ∈ ts)
    (hcur : ∀ e, a.find? (·.name == t.name) = some e → (excl e.name = false ∧ need e = true)) :
    ((updateOp excl need a ts).filter (fun e => e.name == t.name)).length = 1 := by
  obtain ⟨t0, _, _, hx⟩ := update_current_contents excl need a ts t h hcur
  exact congrArg List.length hx

/-- without overlapping arguments `t0` is `t` itself -/
theorem update_current_contents_nodup (excl : Bytes → Bool) (need : UEntry → Bool)
    (a ts : List UEntry) (ht : (names ts).Nodup) (t : UEntry) (h : t ∈ ts)
    (hcur : ∀ e, a.find? (·.name == t.name) = some e → (excl e.name = false ∧ need e = true)) :
    t ∈ updateOp excl need a ts := by
  obtain ⟨t0, h0, h1, _⟩ := update_current_contents excl need a ts t h hcur
  rw [find_of_nodup ht h] at h0
  cases h0
  exact h1

/-- non-vacuity of `update_current_contents`: the name `[2]` three times in the archive (first one
    outdated), twice in the walker result; the hypothesis holds for the second occurrence
    `⟨[2],[22]⟩` too -/
example :
    let a : List UEntry := [⟨[2],[1]⟩, ⟨[5],[50]⟩, ⟨[2],[2]⟩, ⟨[2],[3]⟩]
    let ts : List UEntry := [⟨[2],[21]⟩, ⟨[4],[40]⟩, ⟨[2],[22]⟩]
    (⟨[2],[22]⟩ : UEntry) ∈ ts ∧
    (∀ e, a.find? (·.name == [2]) = some e → ((fun _ => false) e.name = false ∧ (fun e : UEntry => e.body != [3]) e = true)) ∧
    ts.find? (·.name == [2]) = some ⟨[2],[21]⟩ ∧
    updateOp (fun _ => false) (fun e => e.body != [3]) a ts = [⟨[5],[50]⟩, ⟨[2],[21]⟩, ⟨[4],[40]⟩] := by
  refine ⟨by decide, ?_, by decide, by decide⟩
  intro e he
  cases he
  decide

example : ((updateOp (fun _ => false) (fun e => e.body != [3])
      [⟨[2],[1]⟩, ⟨[5],[50]⟩, ⟨[2],[2]⟩, ⟨[2],[3]⟩] [⟨[2],[21]⟩, ⟨[4],[40]⟩, ⟨[2],[22]⟩]).filter
        (fun e => e.name == [2])).length = 1 :=
  update_each_target_once _ _ _ _ ⟨[2],[22]⟩ (by decide)
    (fun e he => by
      cases he
      decide)

/-- where `hcur` of `update_current_contents` fails (`he`: `e` is the first archived entry of its
    name) -/
theorem update_filtered_keeps_old (excl : Bytes → Bool) (need : UEntry → Bool) (a ts : List UEntry)
    (e : UEntry) (he : a.find? (·.name == e.name) = some e)
    (hk : ¬ (excl e.name = false ∧ need e = true)) :
    (updateOp excl need a ts).filter (fun x => x.name == e.name) =
      a.filter (fun x => x.name == e.name) := by
  show withName e.name (updateOp excl need a ts) = withName e.name a
  rw [update_withName, if_neg, if_pos (mem_names_of_find he), List.append_nil]
  rw [recreated_iff, he]
  rintro ⟨_, _, h, h'⟩
  cases h
  exact hk h'

/-- non-vacuity: `[2]` three times in the archive and excluded, twice among the targets -/
example :
    let a : List UEntry := [⟨[2],[1]⟩, ⟨[5],[50]⟩, ⟨[2],[2]⟩, ⟨[2],[3]⟩]
    let ts : List UEntry := [⟨[2],[21]⟩, ⟨[4],[40]⟩, ⟨[2],[22]⟩]
    a.find? (·.name == [2]) = some ⟨[2],[1]⟩ ∧
    ¬ ((fun n => n == [2]) ([2] : Bytes) = false ∧ (fun _ : UEntry => true) ⟨[2],[1]⟩ = true) ∧
    updateOp (fun n => n == [2]) (fun _ => true) a ts =
      [⟨[2],[1]⟩, ⟨[5],[50]⟩, ⟨[2],[2]⟩, ⟨[2],[3]⟩, ⟨[4],[40]⟩] := by decide

example : (updateOp (fun n => n == [2]) (fun _ => true)
      [⟨[2],[1]⟩, ⟨[5],[50]⟩, ⟨[2],[2]⟩, ⟨[2],[3]⟩] [⟨[2],[21]⟩, ⟨[4],[40]⟩, ⟨[2],[22]⟩]).filter
        (fun x => x.name == [2]) = [⟨[2],[1]⟩, ⟨[2],[2]⟩, ⟨[2],[3]⟩] :=
  update_filtered_keeps_old _ _ _ _ ⟨[2],[1]⟩ (by decide) (by decide)

/-- the same with the time filter: the first archived `[2]` is up to date, a later one is not -/
example : updateOp (fun _ => false) (fun e => e.body != [1])
      [⟨[2],[1]⟩, ⟨[2],[2]⟩] [⟨[2],[21]⟩, ⟨[2],[22]⟩] = [⟨[2],[1]⟩, ⟨[2],[2]⟩] := by decide

theorem update_invents_nothing (excl : Bytes → Bool) (need : UEntry → Bool) (a ts : List UEntry) :
    ∀ e ∈ updateOp excl need a ts, e ∈ a ∨ e ∈ ts := by
  intro e he
  rw [updateOp_eq, List.mem_append] at he
  rcases he with h | h
  · exact Or.inl (List.mem_filter.1 h).1
  · exact Or.inr (find_name_some (mem_newPart h)).1

example : ∀ e ∈ updateOp (fun _ => false) (fun _ => true) [⟨[2],[1]⟩, ⟨[3],[30]⟩, ⟨[2],[2]⟩]
      [⟨[2],[21]⟩, ⟨[2],[22]⟩],
    e ∈ [(⟨[2],[1]⟩ : UEntry), ⟨[3],[30]⟩, ⟨[2],[2]⟩] ∨ e ∈ [(⟨[2],[21]⟩ : UEntry), ⟨[2],[22]⟩] := by
  decide

theorem update_names (excl : Bytes → Bool) (need : UEntry → Bool) (a ts : List UEntry) (n : Bytes) :
    n ∈ names (updateOp excl need a ts) ↔ n ∈ names a ∨ n ∈ names ts :=
  mem_names_update a ts n

example : names (updateOp (fun n => n == [2]) (fun _ => true) [⟨[2],[1]⟩, ⟨[3],[30]⟩, ⟨[2],[2]⟩]
    [⟨[4],[40]⟩, ⟨[2],[22]⟩, ⟨[4],[41]⟩]) = [[2], [3], [2], [4]] := by decide

theorem update_idempotent_by_name (excl : Bytes → Bool) (need : UEntry → Bool) (a ts : List UEntry)
    (n : Bytes) :
    (updateOp excl need (updateOp excl need a ts) ts).filter (fun e => e.name == n) =
      (updateOp excl need a ts).filter (fun e => e.name == n) := by
  show withName n _ = withName n _
  rw [update_twice_eq, updateOp_eq, withName_append, withName_append, withName_append, withName_filter,
    withName_filter, withName_newPart, List.append_assoc]
  congr 1
  split
  · cases ts.find? (·.name == n) with
    | none => rfl
    | some t => cases hw : wants excl need t <;> simp [hw]
  · rfl

theorem update_idempotent_entries (excl : Bytes → Bool) (need : UEntry → Bool) (a ts : List UEntry) :
    (updateOp excl need (updateOp excl need a ts) ts).Perm (updateOp excl need a ts) :=
  perm_of_withName_eq (update_idempotent_by_name excl need a ts)

theorem update_idempotent_names (excl : Bytes → Bool) (need : UEntry → Bool) (a ts : List UEntry) :
    (names (updateOp excl need (updateOp excl need a ts) ts)).Perm
      (names (updateOp excl need a ts)) :=
  (update_idempotent_entries excl need a ts).map _

theorem update_idempotent_target (excl : Bytes → Bool) (need : UEntry → Bool) (a ts : List UEntry)
    (t : UEntry) (h : t ∈ ts)
    (hcur : ∀ e, a.find? (·.name == t.name) = some e → (excl e.name = false ∧ need e = true)) :
    ∃ t0, ts.find? (·.name == t.name) = some t0 ∧
      (updateOp excl need (updateOp excl need a ts) ts).filter (fun e => e.name == t.name) = [t0] := by
  rcases update_current_contents excl need a ts t h hcur with ⟨t0, h0, _, h1⟩
  exact ⟨t0, h0, (update_idempotent_by_name excl need a ts t.name).trans h1⟩

/-- `update_twice_eq` without the vocabulary of `Lemmas/CliUpdate`: the second run moves the entries
    written by the first (`Q`) that are re-created again behind the others -/
theorem update_twice_exact (excl : Bytes → Bool) (need : UEntry → Bool) (a ts : List UEntry) :
    ∃ K Q, updateOp excl need a ts = K ++ Q ∧ (∀ q ∈ Q, q ∈ ts) ∧
      updateOp excl need (updateOp excl need a ts) ts =
        K ++ Q.filter (fun q => !(!excl q.name && need q)) ++ Q.filter (fun q => !excl q.name && need q) :=
  ⟨_, _, updateOp_eq a ts, fun _ hq => (find_name_some (mem_newPart hq)).1,
    update_twice_eq a ts⟩

/-- `h`: the targets agree on "not excluded and in need of the update" (all of them, e.g. no
    `--exclude` and no time filter; or none of them, e.g. a time filter that finds every freshly
    written entry up to date).  It is needed: the `¬ ∀` example below. -/
theorem update_idempotent_exact (excl : Bytes → Bool) (need : UEntry → Bool) (a ts : List UEntry)
    (h : ∀ t ∈ ts, ∀ u ∈ ts, (!excl t.name && need t) = (!excl u.name && need u)) :
    updateOp excl need (updateOp excl need a ts) ts = updateOp excl need a ts := by
  rw [update_twice_eq, updateOp_eq, List.append_assoc]
  congr 1
  exact filter_not_append_filter fun x hx y hy =>
    h x (find_name_some (mem_newPart hx)).1 y (find_name_some (mem_newPart hy)).1

theorem update_idempotent_default (a ts : List UEntry) :
    updateOp (fun _ => false) (fun _ => true) (updateOp (fun _ => false) (fun _ => true) a ts) ts =
      updateOp (fun _ => false) (fun _ => true) a ts :=
  update_idempotent_exact _ _ a ts (fun _ _ _ _ => rfl)

/-- non-vacuity (duplicates on both sides, excluded name, new names): twice = once -/
example : updateOp (fun n => n == [3]) (fun _ => true)
      (updateOp (fun n => n == [3]) (fun _ => true)
        [⟨[2],[1]⟩, ⟨[3],[30]⟩, ⟨[2],[2]⟩, ⟨[3],[31]⟩] [⟨[2],[21]⟩, ⟨[3],[32]⟩, ⟨[2],[22]⟩, ⟨[4],[40]⟩])
      [⟨[2],[21]⟩, ⟨[3],[32]⟩, ⟨[2],[22]⟩, ⟨[4],[40]⟩] =
    [⟨[3],[30]⟩, ⟨[3],[31]⟩, ⟨[2],[21]⟩, ⟨[4],[40]⟩] ∧
    updateOp (fun n => n == [3]) (fun _ => true)
        [⟨[2],[1]⟩, ⟨[3],[30]⟩, ⟨[2],[2]⟩, ⟨[3],[31]⟩] [⟨[2],[21]⟩, ⟨[3],[32]⟩, ⟨[2],[22]⟩, ⟨[4],[40]⟩] =
    [⟨[3],[30]⟩, ⟨[3],[31]⟩, ⟨[2],[21]⟩, ⟨[4],[40]⟩] := by decide

/-- the hypothesis of `update_idempotent_exact` cannot be dropped: a NEW path that is excluded
    stays in place while the one before it is re-created again and moves behind it -/
example : ¬ ∀ (excl : Bytes → Bool) (need : UEntry → Bool) (a ts : List UEntry),
    updateOp excl need (updateOp excl need a ts) ts = updateOp excl need a ts := by
  intro h
  exact absurd (h (fun n => n == [2]) (fun _ => true) [] [⟨[1],[10]⟩, ⟨[2],[20]⟩]) (by decide)

/-- operations of a history (creation is the initial archive); the exclusion set and the time
    filter of an update are arbitrary predicates -/
inductive Op where
  | append (ts : List UEntry)
  | update (excl : Bytes → Bool) (need : UEntry → Bool) (ts : List UEntry)
  | delete (sel : Bytes → Bool)

def step (a : List UEntry) : Op → List UEntry
  | .append ts => appendOp a ts
  | .update excl need ts => updateOp excl need a ts
  | .delete sel => deleteOp sel a

/-- C11's "after any interleaving of create, append, update and delete operations":
    `update_current_contents` at the archive reached from any `a` by any `ops` — appends of archived
    paths, updates with overlapping arguments, deletes; nothing is asked of `ops`. -/
theorem history_update_exact (ops : List Op) (a : List UEntry) (excl : Bytes → Bool)
    (need : UEntry → Bool) (ts : List UEntry) (t : UEntry) (h : t ∈ ts)
    (hcur : ∀ e, (ops.foldl step a).find? (·.name == t.name) = some e →
      (excl e.name = false ∧ need e = true)) :
    ∃ t0, ts.find? (·.name == t.name) = some t0 ∧
      t0 ∈ step (ops.foldl step a) (.update excl need ts) ∧
      (step (ops.foldl step a) (.update excl need ts)).filter (fun e => e.name == t.name) = [t0] ∧
      ((step (ops.foldl step a) (.update excl need ts)).filter (fun e => e.name == t.name)).length = 1 := by
  rcases update_current_contents excl need (ops.foldl step a) ts t h hcur with ⟨t0, h0, h1, h2⟩
  exact ⟨t0, h0, h1, h2, congrArg List.length h2⟩

theorem history_update_untargeted (ops : List Op) (a : List UEntry) (excl : Bytes → Bool)
    (need : UEntry → Bool) (ts : List UEntry) :
    (step (ops.foldl step a) (.update excl need ts)).filter (fun e => !(names ts).contains e.name) =
      (ops.foldl step a).filter (fun e => !(names ts).contains e.name) :=
  update_keeps_untargeted excl need _ ts

theorem history_append_prefix (ops : List Op) (a ts : List UEntry) :
    step (ops.foldl step a) (.append ts) = ops.foldl step a ++ ts :=
  rfl

/-- non-vacuity: create `[q:v1, z]`, append `q:v2` (already archived), update with an overlapping
    walker result, delete `z`, append `q:v4` and `q:v5` — then update `[q:v6, q:v6, f]`: one `q`,
    the current one; the hypothesis of `history_update_exact` holds for `q` -/
example :
    let ops : List Op := [.append [⟨[113],[2]⟩], .update (fun _ => false) (fun _ => true)
      [⟨[113],[3]⟩, ⟨[113],[3]⟩], .delete (fun n => n == [122]), .append [⟨[113],[4]⟩, ⟨[113],[5]⟩]]
    let b := ops.foldl step [⟨[113],[1]⟩, ⟨[122],[9]⟩]
    b = [⟨[113],[3]⟩, ⟨[113],[4]⟩, ⟨[113],[5]⟩] ∧
    (∀ e, b.find? (·.name == [113]) = some e →
      ((fun _ => false) e.name = false ∧ (fun _ : UEntry => true) e = true)) ∧
    step b (.update (fun _ => false) (fun _ => true) [⟨[113],[6]⟩, ⟨[113],[6]⟩, ⟨[102],[7]⟩]) =
      [⟨[113],[6]⟩, ⟨[102],[7]⟩] := by
  refine ⟨by decide, fun e _ => ⟨rfl, rfl⟩, by decide⟩

/-- for name uniqueness to survive it an `append` must be *fresh* (unique names, none archived yet);
    `update` and `delete` need no condition (the walker result of an update may repeat names) -/
def Op.ok (a : List UEntry) : Op → Prop
  | .append ts => (names ts).Nodup ∧ ∀ n ∈ names ts, n ∉ names a
  | .update _ _ _ => True
  | .delete _ => True

theorem step_invariant (a : List UEntry) (op : Op) (ha : (names a).Nodup) (hop : op.ok a) :
    (names (step a op)).Nodup := by
  cases op with
  | append ts =>
    show (names (a ++ ts)).Nodup
    rw [names_append, List.nodup_append]
    exact ⟨ha, hop.1, fun x hx y hy hxy => hop.2 y hy (hxy ▸ hx)⟩
  | update excl need ts => exact update_nodup a ts ha
  | delete sel => exact ha.sublist (List.filter_sublist.map _)

/-- `hops`: every operation is `ok` at the archive reached before it -/
theorem history_invariant (ops : List Op) (a : List UEntry) (ha : (names a).Nodup)
    (hops : ∀ (pre : List Op) (op : Op) (post : List Op), ops = pre ++ op :: post → op.ok (pre.foldl step a)) :
    (names (ops.foldl step a)).Nodup := by
  induction ops generalizing a with
  | nil => exact ha
  | cons op ops ih =>
    simp only [List.foldl_cons]
    apply ih
    · exact step_invariant a op ha (hops [] op ops rfl)
    · intro pre op' post h
      have := hops (op :: pre) op' post (by simp [h])
      simpa using this

example : (names (step [⟨[1],[10]⟩, ⟨[2],[20]⟩]
    (.update (fun _ => false) (fun _ => true) [⟨[2],[21]⟩, ⟨[3],[30]⟩, ⟨[2],[22]⟩, ⟨[3],[31]⟩]))).Nodup ∧
    (names [(⟨[1],[10]⟩ : UEntry), ⟨[2],[20]⟩]).Nodup := by decide

/-- create `[q:v1]`, append `[q:v2]`, update `[q:v3]`: update.rs before `b4af50a4` re-creates the
    first entry and carries the stale second one over — two entries named `q`; `updateOp`: one, the
    current one -/
theorem legacy_update_keeps_stale_entry :
    updateOpLegacy (fun _ => false) (fun _ => true)
        (appendOp [⟨[113], [1]⟩] [⟨[113], [2]⟩]) [⟨[113], [3]⟩] =
      [⟨[113], [2]⟩, ⟨[113], [3]⟩] ∧
    ((updateOpLegacy (fun _ => false) (fun _ => true)
        (appendOp [⟨[113], [1]⟩] [⟨[113], [2]⟩]) [⟨[113], [3]⟩]).filter
          (fun e => e.name == [113])).length = 2 ∧
    updateOp (fun _ => false) (fun _ => true)
        (appendOp [⟨[113], [1]⟩] [⟨[113], [2]⟩]) [⟨[113], [3]⟩] = [⟨[113], [3]⟩] :=
  ⟨legacy_keeps_stale_duplicate.1, legacy_keeps_stale_duplicate.2, repaired_drops_stale_duplicate⟩

/-- update of `[z]` with the walker result `[f, f]`: update.rs before `45540250` adds `f` twice -/
theorem legacy_update_adds_target_twice :
    updateOpLegacy (fun _ => false) (fun _ => true) [⟨[122], [1]⟩] [⟨[102], [7]⟩, ⟨[102], [7]⟩] =
      [⟨[122], [1]⟩, ⟨[102], [7]⟩, ⟨[102], [7]⟩] ∧
    ((updateOpLegacy (fun _ => false) (fun _ => true) [⟨[122], [1]⟩]
        [⟨[102], [7]⟩, ⟨[102], [7]⟩]).filter (fun e => e.name == [102])).length = 2 ∧
    updateOp (fun _ => false) (fun _ => true) [⟨[122], [1]⟩] [⟨[102], [7]⟩, ⟨[102], [7]⟩] =
      [⟨[122], [1]⟩, ⟨[102], [7]⟩] :=
  ⟨legacy_adds_target_twice.1, legacy_adds_target_twice.2, repaired_adds_target_once⟩

/-- with unique names on both sides the two `fix:` commits change nothing -/
theorem legacy_agrees_on_unique_names (excl : Bytes → Bool) (need : UEntry → Bool)
    (a ts : List UEntry) (ha : (names a).Nodup) (ht : (names ts).Nodup) :
    updateOp excl need a ts = updateOpLegacy excl need a ts := by
  have := foldl_updateStepLegacy_eq excl need a { pending := dedupNames ts } ha (fun _ _ h => by cases h)
  rw [dedupNames_of_nodup ts ht] at this
  rw [updateOp, updateOpLegacy, this, dedupNames_of_nodup ts ht]

example : (names [(⟨[1],[10]⟩ : UEntry), ⟨[2],[20]⟩]).Nodup ∧ (names [(⟨[2],[21]⟩ : UEntry), ⟨[3],[30]⟩]).Nodup ∧
    updateOpLegacy (fun _ => false) (fun _ => true) [⟨[1],[10]⟩, ⟨[2],[20]⟩] [⟨[2],[21]⟩, ⟨[3],[30]⟩] =
      [⟨[1],[10]⟩, ⟨[2],[21]⟩, ⟨[3],[30]⟩] := by decide

end Pna.C11
