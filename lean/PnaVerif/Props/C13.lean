import PnaVerif.Lemmas.Chunk
/-!
# C13 — pass-through is exact (chunk level)
`decode ∘ encode = id` for every chunk whose payload fits the 32-bit length field, and
`encode ∘ decode = id` on every accepted byte string: copying chunks without interpreting
them reproduces the input byte for byte.  Entry-level re-serialisation theorems are in
`Props/C13Entry.lean`.
-/
namespace Pna.C13
open Pna

theorem chunk_dec_enc (c : Chunk) (r : Bytes) (h : c.data.length < 2 ^ 32) :
    decodeStream (c.encode ++ r) = .ok (c, r) ∧ decodeSlice (c.encode ++ r) = .ok (c, r) :=
  ⟨decodeStream_encode c r h, decodeSlice_eq_decodeStream _ ▸ decodeStream_encode c r h⟩

theorem chunk_enc_dec (bs : Bytes) (c : Chunk) (r : Bytes) (h : decodeStream bs = .ok (c, r)) :
    c.encode ++ r = bs := (decodeStream_ok_inv bs c r h).1

theorem chunk_enc_dec_slice (bs : Bytes) (c : Chunk) (r : Bytes) (h : decodeSlice bs = .ok (c, r)) :
    c.encode ++ r = bs := (decodeStream_ok_inv bs c r (decodeSlice_eq_decodeStream bs ▸ h)).1

/-- Unknown chunk types are framed like any other: nothing in framing depends on the type. -/
theorem unknown_type_roundtrip (t : ChunkType) (d r : Bytes) (h : d.length < 2 ^ 32) :
    decodeStream ((Chunk.mk t d).encode ++ r) = .ok (⟨t, d⟩, r) := decodeStream_encode ⟨t, d⟩ r h

example : decodeStream ((Chunk.mk ⟨109, 121, 84, 121⟩ [1, 2, 3]).encode ++ [9]) = .ok (⟨⟨109, 121, 84, 121⟩, [1, 2, 3]⟩, [9]) := by
  decide +kernel

end Pna.C13
