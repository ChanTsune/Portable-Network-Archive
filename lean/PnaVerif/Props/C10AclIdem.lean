import PnaVerif.Lemmas.Acl
import PnaVerif.Props.C10Acl
/-!
# C10 — `migrate` is idempotent ("repeating the same edit changes nothing further")
Model: `Cli.aclOf`, `Cli.aclChunks`, `Cli.migrateE` (Model/Cli/Acl.lean).
The chunks written for a map `m`, followed only by foreign chunks, read back as `m` (`aclOf_aclChunks`) when `m` has
pairwise distinct platforms, no empty group and only well-formed entries (`AclMapOk`).  Each of the three IS needed:
`readback_needs_*` are kernel-checked counterexamples for a `:` in an identifier, an empty identifier, an empty group
and a repeated platform.  Every map `aclOf` collects is such a map (`aclOf_mapOk`): it only ever collects what
`parseAce` accepted, and that is always well formed.  Hence `migrate_idem_uncond` has no hypothesis beyond success of
the first run; `migrate_idem` states the same under the well-formedness of the collected entries.
-/
namespace Pna.C10AI
open Pna Pna.Cli Pna.Cli.Text

theorem decodeUtf8_utf8 (s : Str) : decodeUtf8 (utf8 s) = some s := Cli.decodeUtf8_utf8 s

example : decodeUtf8 (utf8 "linux é€😀".toList) = some "linux é€😀".toList := decodeUtf8_utf8 _
example : utf8 "é€".toList = [195, 169, 226, 130, 172] := by decide +kernel
example : decodeUtf8 [195, 169, 226, 130, 172] = some "é€".toList := by decide +kernel
/-- decoding can fail: the hypothesis "is an encoding" matters -/
example : decodeUtf8 [195] = none := by decide +kernel

theorem parseAceP_showAce_noprefix (a : Ace) (h : a.WF) : parseAceP (showAce a) = .ok (none, a) :=
  Cli.parseAceP_showAce_noprefix a h

def exAce : Ace :=
  { flags := [true, false, false, true, false, true]
    owner := .user "alice".toList
    allow := true
    perms := [true, true, false, false, false, false, true, false, false, false, false, false, false, true, false, true] }

def exAce2 : Ace := { exAce with owner := .group "staff".toList, allow := false }

example : exAce.WF := by decide
example : parseAceP (showAce exAce) = .ok (none, exAce) := parseAceP_showAce_noprefix exAce (by decide)
example : parseAceP (showAce exAce) = .ok (none, exAce) := by
  rw [Fast.parseAceP_eq, Fast.showAce_eq]
  decide +kernel

abbrev AclMapOk := Cli.AclMapOk

/-- the invariant passes from the state `aclOf` starts in to the map it returns: what it inserts was accepted by
    `parseAceP`, hence is well formed -/
theorem aclOf_mapOk_acc (cur : Str) (acc : AclMap) (cs : List (Bytes × Bytes)) (m : AclMap) (hacc : AclMapOk acc)
    (h : aclOf cur acc cs = some m) : AclMapOk m := by
  -- the seven branches are listed at `aclOf_aces_acc` (Lemmas/Acl.lean)
  fun_induction aclOf cur acc cs with
  | case1 => exact Option.some.inj h ▸ hacc  -- no chunk left
  | case2 _ _ _ _ _ _ ih => exact ih hacc h  -- `faCl` chunk with a UTF-8 name
  | case5 _ acc _ _ _ _ _ a hp _ ih => exact ih (aclInsert_ok acc _ a hacc (parseAceP_WF hp)) h  -- `faCe` that parses
  | case7 _ _ _ _ _ _ _ ih => exact ih hacc h  -- any other chunk
  | _ => cases h  -- 3, 4, 6: `aclOf` fails

theorem aclOf_mapOk (cs : List (Bytes × Bytes)) (m : AclMap) (h : aclOf [] [] cs = some m) : AclMapOk m :=
  aclOf_mapOk_acc [] [] cs m aclMapOk_nil h

/-- the entries of the collected map are exactly what `parseAceP` returned on the `faCe` chunks -/
theorem aclOf_aces_exact (cs : List (Bytes × Bytes)) (m : AclMap) (h : aclOf [] [] cs = some m) (a : Ace) :
    (∃ p ∈ m, a ∈ p.2) ↔ ∃ d s pl, (faCe, d) ∈ cs ∧ decodeUtf8 d = some s ∧ parseAceP s = .ok (pl, a) := by
  simpa using aclOf_aces_acc [] [] cs m h a

/-- so the entries are well formed (what `parseAce` accepts always is) -/
theorem aclOf_aces_WF (cs : List (Bytes × Bytes)) (m : AclMap) (h : aclOf [] [] cs = some m) :
    ∀ p ∈ m, ∀ a ∈ p.2, a.WF :=
  fun p hp => ((aclOf_mapOk cs m h).2 p hp).2

def exM : AclMap := [("linux".toList, [exAce, exAce2]), ("macos".toList, [exAce2]), ([], [exAce])]

example : AclMapOk exM := by decide +kernel

/-- the map collected from the example entry of `C10Acl` -/
def exEM : AclMap :=
  [("linux".toList, [{ flags := [true, false, false, false, false, false], owner := .user "alice".toList, allow := true,
                       perms := [true, true] ++ List.replicate 14 false }]),
   ("macos".toList, [{ flags := List.replicate 6 false, owner := .group "staff".toList, allow := false,
                       perms := [false, true] ++ List.replicate 14 false }])]

theorem exE_acl : aclOf [] [] C10A.exE.extras = some exEM := by
  rw [Fast.aclOf_eq]
  decide +kernel
example : AclMapOk exEM := aclOf_mapOk _ _ exE_acl
example : (∃ p ∈ exEM, exAce ∈ p.2) ↔
    ∃ d s pl, (faCe, d) ∈ C10A.exE.extras ∧ decodeUtf8 d = some s ∧ parseAceP s = .ok (pl, exAce) :=
  aclOf_aces_exact _ _ exE_acl exAce

/-- From any state; no distinctness is needed here. -/
theorem aclOf_aclChunks_acc (m : AclMap) (h : ∀ p ∈ m, ∀ a ∈ p.2, a.WF) (cur : Str) (acc : AclMap)
    (rest : List (Bytes × Bytes)) :
    aclOf cur acc (aclChunks m ++ rest) = aclOf (lastKey cur m) (aclMerge acc m) rest :=
  aclOf_aclChunks_gen m h cur acc rest

theorem aclMerge_fresh (acc m : AclMap) (hk : ((acc ++ m).map (·.1)).Nodup) (hne : ∀ p ∈ m, p.2 ≠ []) :
    aclMerge acc m = acc ++ m := by
  rw [aclMerge_nodup acc m hk, dropEmpty_of_ok m hne]

/-- From the initial state, for any continuation `rest` (which may hold further ACL chunks). -/
theorem aclOf_aclChunks_rest (m : AclMap) (hm : AclMapOk m) (rest : List (Bytes × Bytes)) :
    aclOf [] [] (aclChunks m ++ rest) = aclOf (lastKey [] m) m rest := by
  rw [aclOf_aclChunks_gen m (fun p hp => (hm.2 p hp).2),
    aclMerge_fresh [] m (by simpa using hm.1) (fun p hp => (hm.2 p hp).1)]
  rfl

/-- Reading back what `migrate` wrote gives the same map. -/
theorem aclOf_aclChunks (m : AclMap) (hm : AclMapOk m) (rest : List (Bytes × Bytes))
    (hrest : ∀ x ∈ rest, isAclChunk x = false) : aclOf [] [] (aclChunks m ++ rest) = some m := by
  rw [aclOf_aclChunks_rest m hm, aclOf_skip _ _ _ hrest]

def exRest : List (Bytes × Bytes) := [([109,121,84,121], [1]), ([122,122,84,121], [2])]

example : aclOf [] [] (aclChunks exM ++ exRest) = some exM := aclOf_aclChunks exM (by decide +kernel) exRest (by decide)
example : aclOf [] [] (aclChunks exM ++ exRest) = some exM := by
  rw [Fast.aclOf_eq, Fast.aclChunks_eq]
  decide +kernel
example : (aclChunks exM).length = 7 := by decide +kernel
example : aclOf "linux".toList [("linux".toList, [exAce])] (aclChunks exM ++ exRest)
    = aclOf [] (aclMerge [("linux".toList, [exAce])] exM) exRest :=
  aclOf_aclChunks_acc exM (by decide +kernel) _ _ _
example : aclMerge [("linux".toList, [exAce])] exM =
    [("linux".toList, [exAce, exAce, exAce2]), ("macos".toList, [exAce2]), ([], [exAce])] := by decide +kernel
/-- a continuation with a further ACL chunk: it lands under the last platform written -/
example : aclOf [] [] (aclChunks exEM ++ [(faCe, utf8 (showAce exAce))]) =
    some [exEM[0], ("macos".toList, exEM[1].2 ++ [exAce])] := by
  rw [aclOf_aclChunks_rest exEM (aclOf_mapOk _ _ exE_acl), aclOf_faCe _ _ (by decide), aclOf_nil]
  decide +kernel

-- the three parts of `AclMapOk` are all needed for the read-back
/-- a `:` in an identifier: the text written no longer parses, reading back FAILS -/
theorem readback_needs_WF_colon :
    aclOf [] [] (aclChunks [("linux".toList, [{ exAce with owner := .user "a:b".toList }])]) = none := by
  rw [Fast.aclOf_eq, Fast.aclChunks_eq]
  decide +kernel
/-- an empty identifier: read back as the owning user, a DIFFERENT map -/
theorem readback_needs_WF_empty :
    aclOf [] [] (aclChunks [("linux".toList, [{ exAce with owner := .user [] }])])
      = some [("linux".toList, [{ exAce with owner := .owner }])] := by
  rw [Fast.aclOf_eq, Fast.aclChunks_eq]
  decide +kernel
/-- a group without entries disappears -/
theorem readback_needs_nonempty :
    aclOf [] [] (aclChunks [("linux".toList, []), ("macos".toList, [exAce])]) = some [("macos".toList, [exAce])] := by
  rw [← List.append_nil (aclChunks _), aclOf_aclChunks_gen _ (by decide), aclOf_nil]
  decide +kernel
/-- a repeated platform is merged into its first occurrence -/
theorem readback_needs_distinct :
    aclOf [] [] (aclChunks [("linux".toList, [exAce]), ("macos".toList, [exAce2]), ("linux".toList, [exAce2])])
      = some [("linux".toList, [exAce, exAce2]), ("macos".toList, [exAce2])] := by
  rw [← List.append_nil (aclChunks _), aclOf_aclChunks_gen _ (by decide), aclOf_nil]
  decide +kernel

/-- idempotence from the invariant of the collected map; the two theorems below supply `hok` -/
theorem migrate_idem_of_ok (e e2 : LEntry) (h : migrateE e = some e2)
    (hok : ∀ m, aclOf [] [] e.extras = some m → AclMapOk m) : migrateE e2 = some e2 := by
  obtain ⟨m, hm, hx⟩ := C10A.migrate_layout e e2 h
  have hrest := filter_not_acl e.extras
  have hback : aclOf [] [] e2.extras = some m := by
    rw [hx]
    exact aclOf_aclChunks m (hok m hm) _ hrest
  unfold migrateE
  rw [hback, Option.map_some]
  congr 1
  have : aclChunks m ++ e2.extras.filter (fun x => !isAclChunk x) = e2.extras := by
    rw [hx, filter_aclChunks_append m _ hrest]
  rw [this]

/-- with the well-formedness of the collected entries as a hypothesis (it always holds: `aclOf_aces_WF`) -/
theorem migrate_idem (e e2 : LEntry) (h : migrateE e = some e2)
    (hwf : ∀ m, aclOf [] [] e.extras = some m → ∀ p ∈ m, ∀ a ∈ p.2, a.WF) : migrateE e2 = some e2 :=
  migrate_idem_of_ok e e2 h fun m hm =>
    ⟨(aclOf_mapOk _ m hm).1, fun p hp => ⟨((aclOf_mapOk _ m hm).2 p hp).1, hwf m hm p hp⟩⟩

/-- `migrate` is idempotent on every entry on which it succeeds -/
theorem migrate_idem_uncond (e e2 : LEntry) (h : migrateE e = some e2) : migrateE e2 = some e2 :=
  migrate_idem_of_ok e e2 h fun m hm => aclOf_mapOk _ m hm

/-- … and so is the transformer handed to the strategy (an entry on which `migrate` fails is left alone) -/
theorem migrateF_idem (e e2 : LEntry) (h : migrateF e = some e2) : migrateF e2 = some e2 := by
  unfold migrateF at h ⊢
  cases hm : migrateE e with
  | none =>
    rw [hm, Option.getD_none] at h
    cases h
    rw [hm, Option.getD_none]
  | some e3 =>
    rw [hm, Option.getD_some] at h
    cases h
    rw [migrate_idem_uncond e _ hm, Option.getD_some]

/-- a second run also collects the very same map -/
theorem migrate_same_acl (e e2 : LEntry) (h : migrateE e = some e2) : aclOf [] [] e2.extras = aclOf [] [] e.extras := by
  obtain ⟨m, hm, hx⟩ := C10A.migrate_layout e e2 h
  rw [hx, hm]
  exact aclOf_aclChunks m (aclOf_mapOk _ m hm) _ (filter_not_acl e.extras)

-- non-vacuity on the example entry of `C10Acl`
/-- what `migrate` makes of `C10A.exE` -/
def exE2 : LEntry :=
  { C10A.exE with
    extras := [(faCl, "linux".toUTF8.toList), (faCe, "d:u:alice:allow:r,w".toUTF8.toList),
               (faCl, "macos".toUTF8.toList), (faCe, ":g:staff:deny:w".toUTF8.toList),
               ([109,121,84,121], [1]), ([122,122,84,121], [2])] }

theorem exE_migrate : migrateE C10A.exE = some exE2 := by
  unfold migrateE
  rw [exE_acl, Fast.aclChunks_eq]
  decide +kernel
/-- the first run does change the entry … -/
example : exE2 ≠ C10A.exE := by decide +kernel
/-- … the second does not: evaluated … -/
theorem exE2_migrate : migrateE exE2 = some exE2 := by
  unfold migrateE
  rw [Fast.aclOf_eq, Fast.aclChunks_eq]
  decide +kernel
example : migrateE exE2 = some exE2 := exE2_migrate
example : (migrateE C10A.exE).bind migrateE = migrateE C10A.exE := by
  rw [exE_migrate, Option.bind_some, exE2_migrate]
/-- … and as an instance of the theorems -/
example : migrateE exE2 = some exE2 := migrate_idem_uncond C10A.exE exE2 exE_migrate
example : migrateE exE2 = some exE2 :=
  migrate_idem C10A.exE exE2 exE_migrate (by
    intro m hm
    rw [exE_acl] at hm
    cases hm
    decide +kernel)
example : migrateF exE2 = some exE2 := migrateF_idem C10A.exE exE2 (by rw [migrateF, exE_migrate]; rfl)
example : aclOf [] [] exE2.extras = some exEM := (migrate_same_acl _ _ exE_migrate).trans exE_acl

/-- An entry that is not well formed can never be collected: the text of an entry whose identifier holds a `:` is
    rejected by the first run already (the command fails; nothing is written), … -/
example : migrateE { C10A.exE with extras := [(faCl, utf8 "linux".toList),
    (faCe, utf8 (showAce { exAce with owner := .user "a:b".toList }))] } = none := by
  unfold migrateE
  rw [Fast.aclOf_eq, Fast.aclChunks_eq, Fast.showAce_eq]
  decide +kernel
/-- … and the text of an entry with an empty identifier is collected as the owning user — the first run writes that
    form, which is stable. -/
example : (migrateE { C10A.exE with extras := [(faCe, utf8 (showAce { exAce with owner := .user [] }))] }).map (·.extras)
    = some [(faCl, []), (faCe, utf8 (showAce { exAce with owner := .owner }))] := by
  unfold migrateE
  rw [Fast.aclOf_eq, Fast.aclChunks_eq, Fast.showAce_eq]
  decide +kernel
/-- `migrate` can fail (so `migrateE e = some e2` is a real hypothesis) -/
example : migrateE { C10A.exE with extras := [(faCe, [255])] } = none := by
  unfold migrateE
  rw [Fast.aclOf_eq]
  decide +kernel

#print axioms decodeUtf8_utf8
#print axioms parseAceP_showAce_noprefix
#print axioms aclOf_aclChunks_acc
#print axioms aclMerge_fresh
#print axioms aclOf_aclChunks_rest
#print axioms aclOf_aclChunks
#print axioms aclOf_mapOk
#print axioms aclOf_aces_exact
#print axioms aclOf_aces_WF
#print axioms migrate_idem
#print axioms migrate_idem_uncond
#print axioms migrateF_idem
#print axioms migrate_same_acl
#print axioms readback_needs_WF_colon
#print axioms readback_needs_WF_empty
#print axioms readback_needs_nonempty
#print axioms readback_needs_distinct
#print axioms exE_migrate

end Pna.C10AI
