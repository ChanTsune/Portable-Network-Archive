import PnaVerif.Lemmas.ArchiveRt
/-!
# C06 (archive level) — an interrupted write is reported after exactly the complete chunks
`prefix_chunks`: for every chunk list, every continuation and every cut position `k`, if the cut falls inside (or
exactly before) chunk number `i` and no AEND is among the first `i` chunks, both chunk iterators return exactly the
first `i` chunks and then `UnexpectedEof`; chunk `i` may be the final AEND itself.  `prefix_signature`: a cut inside
the signature returns nothing and `UnexpectedEof`.  Since AEND is the last chunk of every archive the writers
produce, these two cover every proper prefix of a written archive, and none is read as a complete archive (in one
statement, for every file `archiveBytes` builds: `chunksStream_archiveBytes_cut`, Lemmas/ArchiveRt).
`proper_prefix_never_ok` is the weaker corollary for cuts BEFORE the AEND chunk: its `hno` ranges over all of `cs`,
so `cs` cannot hold the final AEND.
The entry readers group these chunks (`groupItems`), so the entries they return before the error are the items
closed within the first `i` chunks; stated at entry level in `readArchiveWith_partFile_cut` (Lemmas/Multipart) and
`C04M.truncated_part`.
-/
namespace Pna.C06A
open Pna

/-- only the chunks before the cut have to be free of AEND: chunk `i` may be the final AEND -/
theorem prefix_chunks (cs : List Chunk) (rest : Bytes) (hfit : ChunksFit cs) (i : Nat) (hi : i < cs.length)
    (hno : ∀ c ∈ cs.take i, c.ty ≠ ChunkType.AEND) (k : Nat)
    (hk1 : (signature ++ encodeChunks (cs.take i)).length ≤ k)
    (hk2 : k < (signature ++ encodeChunks (cs.take (i + 1))).length) :
    chunksStream ((signature ++ encodeChunks cs ++ rest).take k) = (cs.take i, .error .eof) ∧
    chunksSlice ((signature ++ encodeChunks cs ++ rest).take k) = (cs.take i, .error .eof) := by
  rw [List.take_succ_eq_append_getElem hi, encodeChunks_append, encodeChunks_singleton, ← List.append_assoc,
    List.length_append] at hk2
  have h := chunksStream_cut (cs.take i) cs[i] (cs.drop (i + 1)) rest (fun c hc => hfit c (List.mem_of_mem_take hc))
    (hfit _ (List.getElem_mem hi)) hno k hk1 hk2
  rw [← List.drop_eq_getElem_cons hi, List.take_append_drop] at h
  exact ⟨h, by rw [chunksSlice_eq_chunksStream]; exact h⟩

theorem prefix_signature (bs : Bytes) (k : Nat) (hk : k < 8) :
    chunksStream ((signature ++ bs).take k) = ([], .error .eof) := chunksStream_prefix_sig bs k hk

/-- a prefix that stops before the end marker never reads as complete: `cs` is the chunk sequence before AEND (a cut
    inside the AEND chunk is covered by `prefix_chunks`) -/
theorem proper_prefix_never_ok (cs : List Chunk) (rest : Bytes) (hfit : ChunksFit cs) (hno : ∀ c ∈ cs, c.ty ≠ ChunkType.AEND)
    (i : Nat) (hi : i < cs.length) (k : Nat)
    (hk1 : (signature ++ encodeChunks (cs.take i)).length ≤ k)
    (hk2 : k < (signature ++ encodeChunks (cs.take (i + 1))).length) :
    (chunksStream ((signature ++ encodeChunks cs ++ rest).take k)).2.isOk = false := by
  rw [(prefix_chunks cs rest hfit i hi (fun c hc => hno c (List.mem_of_mem_take hc)) k hk1 hk2).1]; rfl

end Pna.C06A
