import PnaVerif.Lemmas.Solid
/-!
# C07 (solid blocks) — the entry iterator over the inside of a solid block

`solidEntries` (`Model/Solid.lean`) is `SolidEntry::entries(..)` once the decoder stack is open: `EntryIterator`
over the decrypted, decompressed inner stream, after the two `fix:` commits (the iterator stops once it has reported
a stream error; a stream that ends inside an entry is an error instead of a silent end).

For **every** inner stream (any bytes, any terminal condition of the decoder stack): no item is a panic, the number
of items is bounded by the input, a stream error is reported at most once and nothing follows it (`solidTrace` is the
same iteration with stream errors tagged), and a non-empty stream (e.g. the noise a wrong password decrypts to) never
iterates to "nothing, no error".

For the streams the writer produces (`encodeChunks (es.flatMap serN)`; property C01 for the inside of a solid block):
exactly the entries written come back (data re-cut at u32::MAX only), followed by the decoder stack's terminal error
if it has one (`UnexpectedEof` included); a truncated inner stream yields exactly the entries that are complete before
the cut and then `UnexpectedEof` — unless the cut falls exactly between two entries, which nothing inside the stream
can reveal.

Hypotheses of the round trip.  The closing FEND of `serN e` must be the first FEND, or `next()` would cut the entry
short.  That needs no hypothesis `∀ c ∈ e.extra, c.ty ≠ FEND` of its own: `NormalEntry.WF` demands
`interpretedN c.ty = false` of every `extra` chunk and FEND is an interpreted type — `wf_excludes_fend`.  (Unlike the
archive-level round trip, SEND/ANXT/AEND among `extra` are harmless here: the inner iterator only looks for FEND.)
`hfit` is needed: `WF` bounds neither the payload of an `extra` chunk nor the PHSF string, and a payload of 2^32 bytes
or more does not survive the 32-bit length field.
-/
namespace Pna.C07S
open Pna

/-- No item is a panic: neither `read_chunk` nor `NormalEntry::try_from` panics, and the fuel
    `s.bytes.length + 1` of the model is never exhausted. -/
theorem solid_no_panic (s : InStream) : ∀ o ∈ solidEntries s, ∀ p, o ≠ .panic p :=
  solidIter_no_panic _ s (Nat.lt_succ_self _)

/-- Termination / resource bound: the iterator yields at most `len / 12 + 1` items before `None` (each entry
    consumes at least its 12-byte FEND chunk). -/
theorem solid_bounded (s : InStream) : (solidEntries s).length ≤ s.bytes.length / 12 + 1 :=
  solidIter_length _ s (Nat.lt_succ_self _)

/-- `solidTrace` (Lemmas/Solid: each item tagged, `true` for a stream error) yields the items of `solidEntries`. -/
theorem solid_trace_items (s : InStream) :
    (solidTrace (s.bytes.length + 1) s).map Prod.snd = solidEntries s :=
  solidTrace_snd _ s

/-- Every item that is not the last is not a stream error: a stream error is reported at most once, and the
    iterator returns `None` right after it. -/
theorem solid_stream_error_once (s : InStream) :
    ∀ i, i + 1 < (solidTrace (s.bytes.length + 1) s).length →
      ((solidTrace (s.bytes.length + 1) s)[i]?.map Prod.fst) = some false :=
  solidTrace_stream_error_last _ s

/-- the tag is faithful: an item tagged `true` is an error item -/
theorem solid_trace_true (s : InStream) :
    ∀ x ∈ solidTrace (s.bytes.length + 1) s, x.1 = true → ∃ e, x.2 = .error e :=
  solidTrace_true _ s

/-- What one successful `next()` consumed: at least 12 bytes, exactly the encoding of the chunks it gathered, which
    end at the first FEND; the terminal condition is untouched. -/
theorem solid_next_consumes (s s' : InStream) (cs : List Chunk)
    (h : collectEntry (s.bytes.length + 1) s [] = .ok (cs, s')) :
    s'.bytes.length + 12 ≤ s.bytes.length ∧ s'.term = s.term ∧
      ∃ body last, cs = body ++ [last] ∧ last.ty = ChunkType.FEND ∧ (∀ c ∈ body, c.ty ≠ ChunkType.FEND) ∧
        encodeChunks cs ++ s'.bytes = s.bytes := by
  obtain ⟨h1, h2, body, last, hcs, hl, hb, he⟩ := collectEntry_ok_inv _ s s' [] cs h
  rw [List.nil_append] at hcs
  exact ⟨h1, h2, body, last, hcs, hl, hb, by rw [hcs]; exact he⟩

/-- **Garbage is not silent** (the wrong-password situation): a non-empty inner stream never iterates to
    "nothing, no error" — the first `next()` yields an entry, a parse error or a stream error. -/
theorem solid_garbage_not_silent (s : InStream) (h : s.bytes ≠ []) : solidEntries s ≠ [] := by
  rw [solidEntries_step s h]
  split <;> simp

/-- `WF` already says that no `extra` chunk is a FEND, so the round trip carries no hypothesis of its own for it. -/
theorem wf_excludes_fend (e : NormalEntry) (h : e.WF) : ∀ c ∈ e.extra, c.ty ≠ ChunkType.FEND :=
  h.extra_ne rfl

/-- Round trip under any terminal condition `t` of the decoder stack: the entries written, then
    `streamEnd t` (nothing for a clean end, the error once otherwise). -/
theorem solid_roundtrip_any (es : List NormalEntry) (hwf : ∀ e ∈ es, e.WF)
    (hfit : ∀ e ∈ es, ChunksFit (serN e)) (t : Option Err) :
    solidEntries ⟨encodeChunks (es.flatMap serN), t⟩ = es.map (fun e => .ok e.recut) ++ streamEnd t := by
  have := solidEntries_append es hwf hfit [] t
  rwa [List.append_nil, solidEntries_nil] at this

/-- **Round trip** (C01 inside a solid block), clean end of stream. -/
theorem solid_roundtrip (es : List NormalEntry) (hwf : ∀ e ∈ es, e.WF)
    (hfit : ∀ e ∈ es, ChunksFit (serN e)) :
    solidEntries ⟨encodeChunks (es.flatMap serN), none⟩ = es.map (fun e => .ok e.recut) := by
  rw [solid_roundtrip_any es hwf hfit none, streamEnd_none, List.append_nil]

/-- Round trip when the decoder stack ends in an error — any error, `UnexpectedEof` included (a bad padding, a
    corrupt or cut compressed trailer after the last entry): all entries, then that error exactly once. -/
theorem solid_roundtrip_error (es : List NormalEntry) (hwf : ∀ e ∈ es, e.WF)
    (hfit : ∀ e ∈ es, ChunksFit (serN e)) (e : Err) :
    solidEntries ⟨encodeChunks (es.flatMap serN), some e⟩ = es.map (fun e => .ok e.recut) ++ [.error e] := by
  rw [solid_roundtrip_any es hwf hfit (some e), streamEnd_some]

/-- Truncation under any terminal condition, cut at the very end allowed: at a boundary the stream behaves like a
    stream that ends there (`streamEnd t`); inside an entry `read_exact` reports the terminal error, `UnexpectedEof`
    for a clean end. -/
theorem solid_truncated_any (es : List NormalEntry) (hwf : ∀ e ∈ es, e.WF)
    (hfit : ∀ e ∈ es, ChunksFit (serN e)) (t : Option Err) (k : Nat)
    (hk : k ≤ (encodeChunks (es.flatMap serN)).length) :
    ∃ n, n ≤ es.length ∧
      (encodeChunks ((es.take n).flatMap serN)).length ≤ k ∧
      (n < es.length → k < (encodeChunks ((es.take (n + 1)).flatMap serN)).length) ∧
      solidEntries ⟨(encodeChunks (es.flatMap serN)).take k, t⟩
        = (es.take n).map (fun e => .ok e.recut)
          ++ (if k = (encodeChunks ((es.take n).flatMap serN)).length then streamEnd t
              else [.error (t.getD .eof)]) := by
  induction es generalizing k with
  | nil =>
    have hk0 : k = 0 := Nat.le_zero.mp hk
    subst hk0
    exact ⟨0, Nat.le_refl _, Nat.le_refl _, nofun, solidEntries_nil t⟩
  | cons e es ih =>
    -- either the cut falls inside `e` (`n = 0`), or `e` comes back and the cut moves left by its length
    have hwe := hwf e (by simp)
    have hfe := hfit e (by simp)
    have hlen : ∀ n, (encodeChunks (((e :: es).take (n + 1)).flatMap serN)).length
        = (encodeChunks (serN e)).length + (encodeChunks ((es.take n).flatMap serN)).length := by
      intro n
      rw [List.take_succ_cons, List.flatMap_cons, encodeChunks_append, List.length_append]
    rw [List.flatMap_cons, encodeChunks_append] at hk ⊢
    rw [List.length_append] at hk
    by_cases hk1 : k < (encodeChunks (serN e)).length
    · refine ⟨0, Nat.zero_le _, Nat.zero_le _, fun _ => ?_, ?_⟩
      · rw [hlen]; omega
      · by_cases hk0 : k = 0
        · subst hk0
          exact solidEntries_nil t
        · rw [solidEntries_cut e hwe hfe _ t k hk0 hk1]
          exact (if_neg hk0).symm
    · obtain ⟨n, hn, hlo, hhi, hiter⟩ := ih (fun e he => hwf e (by simp [he])) (fun e he => hfit e (by simp [he]))
        (k - (encodeChunks (serN e)).length) (by omega)
      refine ⟨n + 1, Nat.succ_le_succ hn, ?_, fun hlt => ?_, ?_⟩
      · rw [hlen]; omega
      · have := hhi (Nat.lt_of_succ_lt_succ hlt)
        rw [hlen]
        omega
      · rw [List.take_append, List.take_of_length_le (by omega), solidEntries_entry e hwe hfe, hiter,
          hlen, List.take_succ_cons, List.map_cons, List.cons_append]
        by_cases hcut : k - (encodeChunks (serN e)).length = (encodeChunks ((es.take n).flatMap serN)).length
        · rw [if_pos hcut, if_pos (by omega)]
        · rw [if_neg hcut, if_neg (by omega)]

/-- **Truncation is detected unless the cut falls exactly between two entries.**  Cutting the inner stream after
    `k` bytes yields exactly the first `n` entries, where `n` is the number of entries complete before the cut, and
    then `UnexpectedEof` once if the cut is inside entry `n + 1`. -/
theorem solid_truncated_detected (es : List NormalEntry) (hwf : ∀ e ∈ es, e.WF)
    (hfit : ∀ e ∈ es, ChunksFit (serN e)) (k : Nat) (hk : k < (encodeChunks (es.flatMap serN)).length) :
    ∃ n, n ≤ es.length ∧
      (encodeChunks ((es.take n).flatMap serN)).length ≤ k ∧
      (n < es.length → k < (encodeChunks ((es.take (n + 1)).flatMap serN)).length) ∧
      solidEntries ⟨(encodeChunks (es.flatMap serN)).take k, none⟩
        = (es.take n).map (fun e => .ok e.recut)
          ++ (if k = (encodeChunks ((es.take n).flatMap serN)).length then [] else [.error .eof]) :=
  solid_truncated_any es hwf hfit none k (Nat.le_of_lt hk)

/-- Whatever the cut (`k` unrestricted), the entries successfully yielded are a prefix of the entries written,
    and the only other item there can be is one final `UnexpectedEof`: never a wrong entry, never an extra one. -/
theorem solid_truncated_prefix (es : List NormalEntry) (hwf : ∀ e ∈ es, e.WF)
    (hfit : ∀ e ∈ es, ChunksFit (serN e)) (k : Nat) :
    ∃ n, n ≤ es.length ∧
      (solidEntries ⟨(encodeChunks (es.flatMap serN)).take k, none⟩ = (es.take n).map (fun e => .ok e.recut) ∨
       solidEntries ⟨(encodeChunks (es.flatMap serN)).take k, none⟩
         = (es.take n).map (fun e => .ok e.recut) ++ [.error .eof]) := by
  -- a cut behind the end is a cut at the end
  rw [List.take_eq_take_min]
  obtain ⟨n, hn, _, _, h⟩ := solid_truncated_any es hwf hfit none _ (Nat.min_le_right _ _)
  refine ⟨n, hn, ?_⟩
  rw [h]
  split
  · left; rw [streamEnd_none, List.append_nil]
  · right; rfl

/-- a file entry with an unknown (private) chunk, two data slices, size, mtime and one xattr -/
def exA : NormalEntry :=
  { header := ⟨0, 0, 0, 0, 0, 0, [97]⟩, phsf := none, extra := [⟨⟨109, 121, 84, 121⟩, [1, 2, 3]⟩],
    data := [[1, 2, 3], [4]], md := { rawSize := some 4, modified := some 7 }, xattrs := [⟨[117], [9]⟩] }
/-- a directory entry with nothing else -/
def exB : NormalEntry :=
  { header := ⟨0, 0, 1, 0, 0, 0, [98]⟩, phsf := none, extra := [], data := [], md := {}, xattrs := [] }

/-- the hypotheses of the round trip are satisfiable: `WF` via `parseN_WF` (whatever parses is well-formed) -/
theorem ex_wf : ∀ e ∈ [exA, exB], e.WF := by
  have h : ∀ e ∈ [exA, exB], parseN (serN e) = .ok e := by decide +kernel
  intro e he
  exact parseN_WF _ e (h e he)

theorem ex_fit : ∀ e ∈ [exA, exB], ChunksFit (serN e) := by decide +kernel

example : solidEntries ⟨encodeChunks ([exA, exB].flatMap serN), none⟩ = [.ok exA.recut, .ok exB.recut] :=
  solid_roundtrip [exA, exB] ex_wf ex_fit

/-- the inner stream of the examples, evaluated once; the examples below read these 160 bytes -/
theorem exStream_eq : encodeChunks ([exA, exB].flatMap serN) = [
   0, 0, 0, 7, 70, 72, 69, 68, 0, 0, 0, 0, 0, 0, 97, 219, 112, 254, 133, 0, 0, 0, 3, 109, 121, 84, 121, 1, 2, 3,
   42, 121, 113, 64, 0, 0, 0, 1, 102, 83, 73, 90, 4, 49, 154, 18, 52, 0, 0, 0, 3, 70, 68, 65, 84, 1, 2, 3, 165,
   127, 103, 68, 0, 0, 0, 1, 70, 68, 65, 84, 4, 173, 5, 46, 32, 0, 0, 0, 8, 109, 84, 73, 77, 0, 0, 0, 0, 0, 0,
   0, 7, 214, 89, 88, 182, 0, 0, 0, 10, 120, 65, 84, 82, 0, 0, 0, 1, 117, 0, 0, 0, 1, 9, 234, 102, 135, 47, 0,
   0, 0, 0, 70, 69, 78, 68, 246, 33, 112, 212, 0, 0, 0, 7, 70, 72, 69, 68, 0, 0, 1, 0, 0, 0, 98, 127, 25, 134,
   143, 0, 0, 0, 0, 70, 69, 78, 68, 246, 33, 112, 212] := by
  decide +kernel

-- the same by evaluation: 160 bytes in (129 of them the first entry), the two entries out; with a failing decoder,
-- the error once after them — `UnexpectedEof` included
example : (encodeChunks ([exA, exB].flatMap serN)).length = 160 := by rw [exStream_eq]; rfl
example : (encodeChunks (serN exA)).length = 129 := by decide +kernel
example : solidEntries ⟨encodeChunks ([exA, exB].flatMap serN), none⟩ = [.ok exA, .ok exB] := by
  rw [exStream_eq]; decide +kernel
example : solidEntries ⟨encodeChunks ([exA, exB].flatMap serN), some .invalidData⟩
    = [.ok exA, .ok exB, .error .invalidData] := by
  rw [exStream_eq]; decide +kernel
example : solidEntries ⟨encodeChunks ([exA, exB].flatMap serN), some .eof⟩
    = [.ok exA, .ok exB, .error .eof] := by
  rw [exStream_eq]; decide +kernel
-- truncation: a cut inside an entry is reported after the complete entries; a cut between entries cannot be seen
example : solidEntries ⟨(encodeChunks ([exA, exB].flatMap serN)).take 159, none⟩ = [.ok exA, .error .eof] := by
  rw [exStream_eq]; decide +kernel
example : solidEntries ⟨(encodeChunks ([exA, exB].flatMap serN)).take 130, none⟩ = [.ok exA, .error .eof] := by
  rw [exStream_eq]; decide +kernel
example : solidEntries ⟨(encodeChunks ([exA, exB].flatMap serN)).take 129, none⟩ = [.ok exA] := by
  rw [exStream_eq]; decide +kernel
example : solidEntries ⟨(encodeChunks ([exA, exB].flatMap serN)).take 128, none⟩ = [.error .eof] := by
  rw [exStream_eq]; decide +kernel
example : solidEntries ⟨(encodeChunks ([exA, exB].flatMap serN)).take 1, none⟩ = [.error .eof] := by decide +kernel
example : solidEntries ⟨(encodeChunks ([exA, exB].flatMap serN)).take 0, none⟩ = [] := by decide +kernel

-- a stream error (an FDAT chunk with a wrong CRC) is the last item, and is tagged as such
example : solidEntries ⟨[0,0,0,0, 70,68,65,84, 0,0,0,0], none⟩ = [.error .invalidData] := by decide +kernel
example : solidTrace 13 ⟨[0,0,0,0, 70,68,65,84, 0,0,0,0], none⟩ = [(true, .error .invalidData)] := by
  decide +kernel
-- after a complete entry: the entry, then the stream error, then nothing
example : solidEntries ⟨encodeChunks (serN exB) ++ [0,0,0,0, 70,68,65,84, 0,0,0,0] ++ encodeChunks (serN exA), none⟩
    = [.ok exB, .error .invalidData] := by decide +kernel
-- an entry that gathers but does not parse (no FHED) is an item, not a stream error: iteration continues
example : solidTrace 200 ⟨(Chunk.mk ChunkType.FEND []).encode ++ encodeChunks (serN exB), none⟩
    = [(false, .error .invalidData), (false, .ok exB)] := by decide +kernel
-- noise (what a wrong password decrypts to): a length field pointing past the end is `UnexpectedEof`, reported
example : solidEntries ⟨[200, 13, 77, 2, 9, 9, 9, 9, 1, 2, 3, 4, 5, 6, 7, 8, 9], none⟩ = [.error .eof] := by
  decide +kernel
example : solidTrace 18 ⟨[200, 13, 77, 2, 9, 9, 9, 9, 1, 2, 3, 4, 5, 6, 7, 8, 9], none⟩ = [(true, .error .eof)] := by
  decide +kernel
-- the empty stream: nothing on a clean end, the decoder's error otherwise
example : solidEntries ⟨[], none⟩ = [] := by decide +kernel
example : solidEntries ⟨[], some .invalidData⟩ = [.error .invalidData] := by decide +kernel

end Pna.C07S

#print axioms Pna.C07S.solid_no_panic
#print axioms Pna.C07S.solid_bounded
#print axioms Pna.C07S.solid_trace_items
#print axioms Pna.C07S.solid_stream_error_once
#print axioms Pna.C07S.solid_trace_true
#print axioms Pna.C07S.solid_next_consumes
#print axioms Pna.C07S.solid_garbage_not_silent
#print axioms Pna.C07S.wf_excludes_fend
#print axioms Pna.C07S.solid_roundtrip_any
#print axioms Pna.C07S.solid_roundtrip
#print axioms Pna.C07S.solid_roundtrip_error
#print axioms Pna.C07S.solid_truncated_detected
#print axioms Pna.C07S.solid_truncated_any
#print axioms Pna.C07S.solid_truncated_prefix
#print axioms Pna.C07S.ex_wf
#print axioms Pna.C07S.ex_fit
