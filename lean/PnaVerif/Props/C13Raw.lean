import PnaVerif.Lemmas.RawCopy
import PnaVerif.Lemmas.Grouping
/-!
# C13 (raw copy) — what a raw copy can lose, exactly

`raw_entries()` hands out the chunks between two end-of-entry chunks (FEND/SEND) as one raw item; ANXT sets a flag
and is part of no item; at AEND the chunks collected since the last FEND/SEND stay in the carry buffer.  A raw copy
(`pna concat`, `pna split`, `add_entry(raw)`) writes exactly the raw items.

* `groupItems_partition`, `groupItems_partition_aend`   grouping never drops or reorders a chunk: every chunk
      that is not ANXT is in an item or in the carry buffer, in the order read; nothing after AEND is looked at;
* `raw_copy_loses_exactly_the_carry`   `pna concat` of ONE archive holding ANY chunks (no AEND/ANXT among
      them) succeeds and writes the items; items ++ carry = the chunks read, the carry being the chunks after the
      last FEND/SEND.  `raw_copy_bytes`: the output is byte for byte the input archive (number 0) without that tail;
* `raw_copy_keeps_closed_body`   when the chunks end with FEND/SEND (or there are none) the copy holds every
      chunk, in order, whatever the chunk types in between;
* `raw_copy_drops_archive_level_chunk`   kernel-checked witness of the known finding C13-archive-level-chunk
      (DESIGN.md §12.3): a private chunk after the last entry is dropped by the copy;
* `raw_copy_keeps_chunk_between_entries`   a chunk BETWEEN two entries is kept: it becomes the first chunk of
      the next raw item.

The hypothesis "no AHED among the chunks" of the informal statement is not needed: nothing after the first chunk
looks at AHED.
-/
namespace Pna.C13R
open Pna

/-- Nothing is dropped, nothing reordered: every chunk that is not ANXT is in an item or in the carry buffer. -/
theorem groupItems_partition (cs : List Chunk) (hno : ∀ c ∈ cs, c.ty ≠ ChunkType.AEND) (cur : List Chunk)
    (nx : Bool) :
    let (items, left, _, ended) := groupItems cur nx cs
    ended = false ∧ items.flatten ++ left = cur ++ cs.filter (fun c => c.ty ≠ ChunkType.ANXT) := by
  exact ⟨groupItems_ended_eq cs hno cur nx, groupItems_partition_proj cs hno cur nx⟩

/-- … with AEND: the same for the chunks before it, and the result does not depend on what follows it (`post`). -/
theorem groupItems_partition_aend (pre post : List Chunk) (aend : Chunk) (ha : aend.ty = ChunkType.AEND)
    (hpre : ∀ c ∈ pre, c.ty ≠ ChunkType.AEND) (cur : List Chunk) (nx : Bool) :
    (let (items, left, _, ended) := groupItems cur nx (pre ++ [aend] ++ post)
     ended = true ∧ items.flatten ++ left = cur ++ pre.filter (fun c => c.ty ≠ ChunkType.ANXT)) ∧
    ∀ post2, groupItems cur nx (pre ++ [aend] ++ post) = groupItems cur nx (pre ++ [aend] ++ post2) := by
  simp only [List.append_assoc, List.singleton_append]
  refine ⟨?_, fun post2 => ?_⟩
  · rw [groupItems_upto_aend pre aend post hpre ha cur nx]
    exact ⟨rfl, groupItems_partition_proj pre hpre cur nx⟩
  · rw [groupItems_upto_aend pre aend post hpre ha, groupItems_upto_aend pre aend post2 hpre ha]

-- non-vacuity: a carry buffer, an ANXT chunk in the middle, an unknown chunk type, an open tail
def myTy : ChunkType := ⟨109, 121, 84, 121⟩

def exCs : List Chunk :=
  [⟨ChunkType.FDAT, [1]⟩, ⟨ChunkType.FEND, []⟩, ⟨ChunkType.ANXT, []⟩, ⟨myTy, [7]⟩, ⟨ChunkType.SHED, [0]⟩,
   ⟨ChunkType.SEND, []⟩, ⟨myTy, [8]⟩]

example : ∀ c ∈ exCs, c.ty ≠ ChunkType.AEND := by decide
example := groupItems_partition exCs (by decide) [⟨ChunkType.FHED, [0]⟩] false
example : groupItems [⟨ChunkType.FHED, [0]⟩] false exCs
    = ([[⟨ChunkType.FHED, [0]⟩, ⟨ChunkType.FDAT, [1]⟩, ⟨ChunkType.FEND, []⟩],
        [⟨myTy, [7]⟩, ⟨ChunkType.SHED, [0]⟩, ⟨ChunkType.SEND, []⟩]], [⟨myTy, [8]⟩], true, false) := by decide
example := groupItems_partition_aend exCs [⟨ChunkType.FHED, [9]⟩, ⟨ChunkType.FEND, []⟩] ⟨ChunkType.AEND, []⟩ rfl
  (by decide) [] false
example : groupItems [] false (exCs ++ [⟨ChunkType.AEND, []⟩] ++ [⟨ChunkType.FHED, [9]⟩, ⟨ChunkType.FEND, []⟩])
    = ([[⟨ChunkType.FDAT, [1]⟩, ⟨ChunkType.FEND, []⟩],
        [⟨myTy, [7]⟩, ⟨ChunkType.SHED, [0]⟩, ⟨ChunkType.SEND, []⟩]], [⟨myTy, [8]⟩], true, true) := by decide

/-- One well-tokenising archive — signature, AHED (number `n < 2^32`), chunks `body` of ANY types that fit
    the length field and hold no AEND/ANXT, AEND.  `pna concat` succeeds and writes raw items with
    `items.flatten ++ carry = body`, where `carry = openTail body` are the chunks after the last FEND/SEND of `body`:
    the copy loses exactly the carry.  Every item is closed by FEND/SEND and holds no other FEND/SEND (so the items
    are determined by `items.flatten = closedPart body`). -/
theorem raw_copy_loses_exactly_the_carry (n : Nat) (hn : n < 2 ^ 32) (body : List Chunk) (hfit : ChunksFit body)
    (hno : NoPartMarkers body) :
    ∃ items : List (List Chunk),
      Cli.concat [[archiveBytes n body]] = .ok (Cli.writeRaw items) ∧
      items.flatten ++ openTail body = body ∧
      items.flatten = closedPart body ∧
      (∀ it ∈ items, ∃ b e, it = b ++ [e] ∧ (e.ty = ChunkType.FEND ∨ e.ty = ChunkType.SEND) ∧
        ∀ c ∈ b, ¬ (c.ty = ChunkType.FEND ∨ c.ty = ChunkType.SEND)) := by
  obtain ⟨_, h2⟩ := groupItems_carry_openTail body hno false
  refine ⟨(groupItems [] false body).1, concat_archiveBytes n hn body hfit hno, ?_, h2,
    groupItems_items_closed body [] false (fun _ h => absurd h List.not_mem_nil)⟩
  rw [h2, closedPart_append_openTail]

/-- `raw_copy_loses_exactly_the_carry` for any way of writing `body` as `pre ++ tail` with `tail` free of FEND/SEND and
    `pre` empty or closed by FEND/SEND (the specification of "the chunks after the last FEND/SEND", without
    `openTail`): the copy holds exactly `pre`. -/
theorem raw_copy_loses_exactly_the_carry_spec (n : Nat) (hn : n < 2 ^ 32) (pre tail : List Chunk)
    (hfit : ChunksFit (pre ++ tail)) (hno : NoPartMarkers (pre ++ tail))
    (ht : ∀ c ∈ tail, ¬ (c.ty = ChunkType.FEND ∨ c.ty = ChunkType.SEND))
    (hp : pre = [] ∨ ∃ p e, pre = p ++ [e] ∧ (e.ty = ChunkType.FEND ∨ e.ty = ChunkType.SEND)) :
    ∃ items : List (List Chunk),
      Cli.concat [[archiveBytes n (pre ++ tail)]] = .ok (Cli.writeRaw items) ∧ items.flatten = pre := by
  exact ⟨_, concat_archiveBytes n hn _ hfit hno, (groupItems_carry_spec pre tail hno ht hp false).2⟩

/-- … at byte level: the output of the copy is the input archive, renumbered 0, without its open tail. -/
theorem raw_copy_bytes (n : Nat) (hn : n < 2 ^ 32) (body : List Chunk) (hfit : ChunksFit body)
    (hno : NoPartMarkers body) :
    Cli.concat [[archiveBytes n body]] = .ok (archiveBytes 0 (closedPart body)) := by
  rw [concat_archiveBytes n hn body hfit hno, writeRaw_archiveBytes,
    (groupItems_carry_openTail body hno false).2]

theorem closedPart_of_closed (body : List Chunk)
    (hb : body = [] ∨ ∃ p e, body = p ++ [e] ∧ (e.ty = ChunkType.FEND ∨ e.ty = ChunkType.SEND)) :
    closedPart body = body ∧ openTail body = [] := by
  have h := openTail_unique body [] (fun _ h => absurd h List.not_mem_nil) hb
  rw [List.append_nil] at h
  exact ⟨h.2, h.1⟩

/-- If `body` is empty or ends with FEND/SEND, the copy holds every chunk of `body`, in order: the output
    is byte for byte the archive number 0 holding `body`, and tokenising it gives AHED, the chunks of `body`, AEND.
    Byte-exact pass-through for ANY chunk types in between, understood or not. -/
theorem raw_copy_keeps_closed_body (n : Nat) (hn : n < 2 ^ 32) (body : List Chunk) (hfit : ChunksFit body)
    (hno : NoPartMarkers body)
    (hb : body = [] ∨ ∃ p e, body = p ++ [e] ∧ (e.ty = ChunkType.FEND ∨ e.ty = ChunkType.SEND)) :
    Cli.concat [[archiveBytes n body]] = .ok (archiveBytes 0 body) ∧
    chunksStream (archiveBytes 0 body)
      = (⟨ChunkType.AHED, encAHED ⟨0, 0, 0⟩⟩ :: (body ++ [⟨ChunkType.AEND, []⟩]), .ok ()) := by
  refine ⟨?_, chunksStream_archiveBytes 0 body hfit hno.noAEND⟩
  rw [raw_copy_bytes n hn body hfit hno, (closedPart_of_closed body hb).1]

/-- a file entry, then a private chunk "archive-level" after the last entry -/
def wBody : List Chunk :=
  [⟨ChunkType.FHED, [0, 0, 0, 0, 0, 0, 97]⟩, ⟨ChunkType.FDAT, [104, 101, 108, 108, 111]⟩, ⟨ChunkType.FEND, []⟩,
   ⟨myTy, [97, 114, 99, 104, 105, 118, 101, 45, 108, 101, 118, 101, 108]⟩]

theorem wBody_fit : ChunksFit wBody := by decide
theorem wBody_clean : NoPartMarkers wBody := by decide

/-- Kernel-checked witness of the known finding C13-archive-level-chunk: `pna concat` on the archive
    `FHED, FDAT, FEND, myTy "archive-level"` succeeds; the input holds the `myTy` chunk, the output holds none — it
    is the archive of the first three chunks. -/
theorem raw_copy_drops_archive_level_chunk :
    Cli.concat [[archiveBytes 0 wBody]] = .ok (archiveBytes 0 (wBody.take 3)) ∧
    (chunksStream (archiveBytes 0 wBody)).2 = .ok () ∧
    (∃ c ∈ (chunksStream (archiveBytes 0 wBody)).1, c.ty = myTy) ∧
    (chunksStream (archiveBytes 0 (wBody.take 3))).2 = .ok () ∧
    (∀ c ∈ (chunksStream (archiveBytes 0 (wBody.take 3))).1, c.ty ≠ myTy) ∧
    (archiveBytes 0 wBody).length = 113 ∧ (archiveBytes 0 (wBody.take 3)).length = 88 := by
  decide +kernel

-- the theorems on the witness: the carry is the private chunk, the copy is the rest
example : openTail wBody = [⟨myTy, [97, 114, 99, 104, 105, 118, 101, 45, 108, 101, 118, 101, 108]⟩] ∧
    closedPart wBody = wBody.take 3 := by decide
example := raw_copy_loses_exactly_the_carry 0 (by decide) wBody wBody_fit wBody_clean
example := raw_copy_bytes 0 (by decide) wBody wBody_fit wBody_clean
example := raw_copy_loses_exactly_the_carry_spec 0 (by decide) (wBody.take 3) (wBody.drop 3) wBody_fit wBody_clean
  (by decide) (Or.inr ⟨wBody.take 2, ⟨ChunkType.FEND, []⟩, rfl, Or.inl rfl⟩)

-- `raw_copy_keeps_closed_body` on a body with unknown chunks before, inside and between entries, part number 5 in the
-- header
def kBody : List Chunk :=
  [⟨myTy, [1]⟩, ⟨ChunkType.FHED, [0, 0, 0, 0, 0, 0, 97]⟩, ⟨myTy, [2]⟩, ⟨ChunkType.FDAT, [104, 105]⟩,
   ⟨ChunkType.FEND, []⟩, ⟨myTy, [3]⟩, ⟨ChunkType.SHED, [0, 0, 0, 0, 0]⟩, ⟨ChunkType.SDAT, [9, 9]⟩,
   ⟨ChunkType.SEND, []⟩]

theorem kBody_fit : ChunksFit kBody := by decide
theorem kBody_clean : NoPartMarkers kBody := by decide

example := raw_copy_keeps_closed_body 5 (by decide) kBody kBody_fit kBody_clean
  (Or.inr ⟨kBody.take 8, ⟨ChunkType.SEND, []⟩, rfl, Or.inr rfl⟩)
example : Cli.concat [[archiveBytes 5 kBody]] = .ok (archiveBytes 0 kBody) := by decide +kernel

-- the hypothesis "no ANXT in `body`" is needed: with an ANXT chunk the walk asks for a next part file and the command
-- fails with `NotFound`; a chunk list with AEND in it is simply a shorter archive followed by ignored bytes
example : Cli.concat [[archiveBytes 0 (kBody.take 5 ++ [⟨ChunkType.ANXT, []⟩] ++ kBody.drop 5)]] = .error .notFound := by
  decide +kernel
example : Cli.concat [[archiveBytes 0 (kBody.take 5 ++ [⟨ChunkType.AEND, []⟩] ++ kBody.drop 5)]]
    = .ok (archiveBytes 0 (kBody.take 5)) := by decide +kernel

/-- A chunk `x` (any type but the four structural markers) BETWEEN two entries: complete items `its1`, then
    `x`, then the complete item `it2`, then complete items `its2`.  The raw copy keeps `x`: the output is byte for
    byte the archive number 0 holding all the chunks, and `x` is the first chunk of the raw item that follows it
    (the items written are `its1 ++ [x :: it2] ++ its2`). -/
theorem raw_copy_keeps_chunk_between_entries (n : Nat) (hn : n < 2 ^ 32) (its1 : List (List Chunk)) (x : Chunk)
    (it2 : List Chunk) (its2 : List (List Chunk)) (hw1 : ∀ it ∈ its1, ItemWF it) (hw2 : ItemWF it2)
    (hw3 : ∀ it ∈ its2, ItemWF it)
    (hx : x.ty ≠ ChunkType.FEND ∧ x.ty ≠ ChunkType.SEND ∧ x.ty ≠ ChunkType.ANXT ∧ x.ty ≠ ChunkType.AEND)
    (hfit : ChunksFit (its1.flatten ++ [x] ++ it2 ++ its2.flatten)) :
    Cli.concat [[archiveBytes n (its1.flatten ++ [x] ++ it2 ++ its2.flatten)]]
      = .ok (archiveBytes 0 (its1.flatten ++ [x] ++ it2 ++ its2.flatten)) ∧
    Cli.concat [[archiveBytes n (its1.flatten ++ [x] ++ it2 ++ its2.flatten)]]
      = .ok (Cli.writeRaw (its1 ++ [x :: it2] ++ its2)) ∧
    (groupItems [] false (its1.flatten ++ [x] ++ it2 ++ its2.flatten)).1 = its1 ++ [x :: it2] ++ its2 := by
  have hw : ∀ it ∈ its1 ++ [x :: it2] ++ its2, ItemWF it := by
    intro it hit
    simp only [List.mem_append, List.mem_singleton] at hit
    rcases hit with (hit | rfl) | hit
    · exact hw1 it hit
    · exact ItemWF_cons x it2 hw2 hx
    · exact hw3 it hit
  have hb : its1.flatten ++ [x] ++ it2 ++ its2.flatten = (its1 ++ [x :: it2] ++ its2).flatten := by simp
  have hno : NoPartMarkers (its1 ++ [x :: it2] ++ its2).flatten :=
    items_clean hw
  rw [hb] at hfit ⊢
  have hc := concat_archiveBytes n hn _ hfit hno
  rw [groupItems_flatten_items _ hw] at hc
  exact ⟨by rw [hc, writeRaw_archiveBytes], hc, by rw [groupItems_flatten_items _ hw]⟩

-- non-vacuity: `kBody` is  [myTy 1 :: file entry with a private chunk inside], myTy 3, solid block
theorem kItem1_wf : ItemWF (kBody.take 5) := by decide
theorem kItem2_wf : ItemWF (kBody.drop 6) := by decide

example := raw_copy_keeps_chunk_between_entries 5 (by decide) [kBody.take 5] ⟨myTy, [3]⟩ (kBody.drop 6) []
  (fun it hit => by rw [List.mem_singleton.mp hit]; exact kItem1_wf) kItem2_wf
  (fun _ h => absurd h List.not_mem_nil) (by decide) (by decide)
example : [kBody.take 5].flatten ++ [⟨myTy, [3]⟩] ++ kBody.drop 6 ++ ([] : List (List Chunk)).flatten = kBody := by
  decide
example : (groupItems [] false kBody).1 = [kBody.take 5, ⟨myTy, [3]⟩ :: kBody.drop 6] := by decide

end Pna.C13R

#print axioms Pna.C13R.groupItems_partition
#print axioms Pna.C13R.groupItems_partition_aend
#print axioms Pna.C13R.raw_copy_loses_exactly_the_carry
#print axioms Pna.C13R.raw_copy_loses_exactly_the_carry_spec
#print axioms Pna.C13R.raw_copy_bytes
#print axioms Pna.C13R.raw_copy_keeps_closed_body
#print axioms Pna.C13R.raw_copy_drops_archive_level_chunk
#print axioms Pna.C13R.raw_copy_keeps_chunk_between_entries
