import PnaVerif.Lemmas.PartName
/-!
# C15 (multipart names) — part numbers in file names can be changed and removed consistently
Model: `Model/Cli/PartName.lean` (`with_part_n` / `remove_part_n`, after the fix that appends
`.partN` to a foreign extension instead of replacing it); proofs: `Lemmas/PartName.lean`.

* the decimal part number is non-empty, all digits, injective; `part` + digits is a part marker;
* in the model numbering fails only for the names `""` and `".."` (Rust's `with_part_n` also returns `None` on
  `"."`, which has no `file_stem`); renumbering is consistent on *every* name (`Good` is `True`), and different
  numbers give different names;
* removal gives back the original name
  - for every name without a `pna` extension that is not itself numbered (exactly those:
    `removeExt_withExt_other_iff`), e.g. `x.tar ↦ x.tar.part1 ↦ x.tar`, `a.partition`;
  - for `pna` names whose stem is not `.` and is not itself numbered;
  and renumbering does not change what removal gives;
* the same on simple paths `dir ++ name`.

Removal on *every* `pna` name with an unmarked stem is false, refuted by a kernel-checked witness:
`..pna ↦ ..part1.pna ↦ ..`; the stem must not be `.`.  The names on which the code before the `fix:` went wrong
(`a.b.c.d`, `...x`, `x.tar`) are among the positive examples.
-/
namespace Pna.C15Part
open Pna Pna.Cli.PartName

theorem decimal_nonempty (n : Nat) : decimal n ≠ [] := Nat.toDigits_ne_nil

theorem decimal_digits (n : Nat) : ∀ c ∈ decimal n, isDigit c = true :=
  fun _ h => isDigit_of_mem_decimal h

theorem decimal_no_dot_no_slash (n : Nat) : '.' ∉ decimal n ∧ '/' ∉ decimal n :=
  ⟨not_mem_decimal_of_not_digit (by decide), not_mem_decimal_of_not_digit (by decide)⟩

theorem decimal_left_inverse (n : Nat) : fromDecimal (decimal n) = n := fromDecimal_decimal n

theorem decimal_injective {n m : Nat} (h : decimal n = decimal m) : n = m := decimal_inj h

theorem part_marker_decimal (n : Nat) : isPartMarker (partPrefix ++ decimal n) = true :=
  isPartMarker_partExt n

theorem part_marker_no_dot_no_slash (n : Nat) :
    '.' ∉ partPrefix ++ decimal n ∧ '/' ∉ partPrefix ++ decimal n :=
  ⟨dot_not_mem_partExt n, slash_not_mem_partExt n⟩

/-- in the model numbering fails only when there is no file name; Rust's `with_part_n` fails on `"."` as well -/
theorem withExt_eq_none_iff (name : Str) (n : Nat) :
    withExt name n = none ↔ name = [] ∨ name = ['.', '.'] := by
  rw [← splitExt_eq_none_iff]
  refine ⟨fun h => Classical.byContradiction fun hs => ?_, fun hs => by simp only [withExt, hs]⟩
  obtain ⟨b, s, _, _, _, hw⟩ := withExt_shape hs
  rw [hw n] at h
  cases h

/-- renumbering a part name gives the name the original would have got — for every name -/
theorem withExt_renumber (name w : Str) (n m : Nat) (h : withExt name n = some w) :
    withExt w m = withExt name m := by
  obtain ⟨b, s, hb, hs, _, hw⟩ := withExt_shape (splitExt_ne_none_of_withExt h)
  rw [hw n] at h
  cases h
  rw [hw m]
  exact withExt_marked hb hs n m

/-- `Good` is `True`: this says no more than `withExt_renumber` -/
theorem good_iff_renumber (name : Str) :
    Good name ↔ ∀ n m w, withExt name n = some w → withExt w m = withExt name m :=
  ⟨fun _ n m w h => withExt_renumber name w n m h, fun _ => trivial⟩

theorem good_all (name : Str) : Good name := trivial

theorem good_withExt (name w : Str) (n : Nat) (_h : withExt name n = some w) : Good w := trivial

theorem good_of_not_pna (name : Str) (_h : ¬ PnaExt name) : Good name := trivial

theorem good_of_pna_ext (name : Str) (_h : PnaExt name) : Good name := trivial

theorem withExt_injective (name w : Str) (n m : Nat)
    (h1 : withExt name n = some w) (h2 : withExt name m = some w) : n = m := by
  obtain ⟨b, s, _, _, _, hw⟩ := withExt_shape (splitExt_ne_none_of_withExt h1)
  rw [hw n] at h1
  rw [hw m, ← h1] at h2
  have := List.append_cancel_left (Option.some.inj h2)
  exact (partExt_inj (List.append_cancel_right (List.cons.inj this).2)).symm

/-- strongest form: the stem is not `.` (`neg_dot_stem_pna`) and is not numbered — its own extension is not
    `part` + digits (`neg_numbered_stem`). -/
theorem removeExt_withExt_pna_strong (name w : Str) (n : Nat)
    (hp : ∃ stem e, splitExt name = some (stem, some e) ∧ e.map lower = ['p', 'n', 'a'] ∧
      ¬ Numbered stem ∧ stem ≠ ['.'])
    (h : withExt name n = some w) : removeExt w = some name := by
  obtain ⟨stem, e, hs, he, hm, hdot⟩ := hp
  obtain ⟨hname, hstem, _⟩ := splitExt_some_ext hs
  rw [withExt_pna_unnumbered n hs he hm] at h
  cases h
  rw [removeExt_marked_pna stem e hstem hdot he n, hname]

theorem removeExt_withExt_pna (name w : Str) (n : Nat)
    (hp : ∃ stem e, splitExt name = some (stem, some e) ∧ e.map lower = ['p', 'n', 'a'] ∧
      NotMarked stem ∧ stem ≠ ['.'])
    (h : withExt name n = some w) : removeExt w = some name := by
  obtain ⟨stem, e, hs, he, hm, hdot⟩ := hp
  exact removeExt_withExt_pna_strong name w n ⟨stem, e, hs, he, not_numbered_of_notMarked hm, hdot⟩ h

/-- every name that has no `pna` extension and is not itself numbered round-trips: `.partN` is
    appended to the whole name and removed again (`x.tar ↦ x.tar.partN ↦ x.tar`) -/
theorem removeExt_withExt_other (name w : Str) (n : Nat) (h : withExt name n = some w)
    (hn : ¬ PnaExt name) (hm : ¬ Numbered name) : removeExt w = some name := by
  have hs := splitExt_ne_none_of_withExt h
  have hne : name ≠ [] := fun h0 => hs ((splitExt_eq_none_iff name).mpr (Or.inl h0))
  rw [withExt_append n hs hn hm] at h
  cases h
  exact removeExt_marked_plain name hne n

/-- the side condition is exact: a numbered name gets its marker replaced, and removal then gives
    the stem -/
theorem removeExt_withExt_other_iff (name w : Str) (n : Nat) (h : withExt name n = some w)
    (hn : ¬ PnaExt name) : removeExt w = some name ↔ ¬ Numbered name := by
  refine ⟨fun hr hm => ?_, removeExt_withExt_other name w n h hn⟩
  obtain ⟨stem, e, hs, he⟩ := numbered_iff.mp hm
  obtain ⟨rfl, hstem, _⟩ := splitExt_some_ext hs
  rw [withExt_replace n hs he] at h
  cases h
  rw [removeExt_marked_plain stem hstem n] at hr
  simpa using congrArg List.length (Option.some.inj hr)

/-- with the stronger `NotMarked` (no extension beginning with `part` at all) -/
theorem removeExt_withExt_other_notMarked (name w : Str) (n : Nat) (h : withExt name n = some w)
    (hn : ¬ PnaExt name) (hm : NotMarked name) : removeExt w = some name :=
  removeExt_withExt_other name w n h hn (not_numbered_of_notMarked hm)

/-- names without extension (no dot, or only a leading one; `.` included — in the model only, see
    `withExt_eq_none_iff`) -/
theorem removeExt_withExt_no_extension (name w : Str) (n : Nat)
    (hs : splitExt name = some (name, none)) (h : withExt name n = some w) :
    removeExt w = some name :=
  removeExt_withExt_other name w n h (by simp only [PnaExt, hs, not_false_eq_true])
    (by simp only [Numbered, hs, not_false_eq_true])

theorem removeExt_withExt_dotless (name w : Str) (n : Nat) (hd : '.' ∉ name) (hne : name ≠ [])
    (h : withExt name n = some w) : removeExt w = some name :=
  removeExt_withExt_no_extension name w n (plain_of_dotless name hne hd) h

/-- whenever removal inverts numbering on `base`, renumbering a part name of `base` does not
    change what removal gives, namely `base` -/
theorem removeExt_renumbered_of (base name w : Str) (k n : Nat)
    (hr : ∀ v j, withExt base j = some v → removeExt v = some base)
    (hk : withExt base k = some name) (h : withExt name n = some w) :
    removeExt name = removeExt w ∧ removeExt w = some base := by
  have hw : withExt base n = some w := by rw [← withExt_renumber base name k n hk, h]
  rw [hr name k hk, hr w n hw]
  exact ⟨rfl, rfl⟩

/-- a part name `name` of a `pna` archive `base` -/
theorem removeExt_renumbered (base name w : Str) (k n : Nat)
    (hp : ∃ stem e, splitExt base = some (stem, some e) ∧ e.map lower = ['p', 'n', 'a'] ∧
      NotMarked stem ∧ stem ≠ ['.'])
    (hk : withExt base k = some name) (h : withExt name n = some w) :
    removeExt name = removeExt w ∧ removeExt w = some base :=
  removeExt_renumbered_of base name w k n
    (fun v j hv => removeExt_withExt_pna base v j hp hv) hk h

/-- a part name `name` of any other file `base` that is not itself numbered -/
theorem removeExt_renumbered_other (base name w : Str) (k n : Nat)
    (hn : ¬ PnaExt base) (hm : ¬ Numbered base)
    (hk : withExt base k = some name) (h : withExt name n = some w) :
    removeExt name = removeExt w ∧ removeExt w = some base :=
  removeExt_renumbered_of base name w k n
    (fun v j hv => removeExt_withExt_other base v j hv hn hm) hk h

theorem dirPrefix_nil : DirPrefix [] := Or.inl rfl

theorem dirPrefix_slash (d : Str) : DirPrefix (d ++ ['/']) := Or.inr List.getLast?_concat

theorem splitPath_simple (dir name : Str) (hd : DirPrefix dir) (hn : '/' ∉ name) :
    splitPath (dir ++ name) = (dir, name) := by
  have h1 : (dir.reverse).takeWhile (· ≠ '/') = [] := by
    rcases hd with hd | hd
    · subst hd; rfl
    · obtain ⟨ys, hys⟩ := List.getLast?_eq_some_iff.mp hd
      subst hys
      simp
  have h2 : ((dir ++ name).reverse.takeWhile (· ≠ '/')).reverse = name := by
    rw [List.reverse_append, List.takeWhile_append_of_pos, h1]
    · simp
    · intro a ha
      have : a ≠ '/' := fun h => hn (by rw [← h]; simpa using ha)
      simpa using this
  unfold splitPath
  simp only [h2]
  rw [List.take_left' (by simp)]

theorem withExt_no_slash (name w : Str) (n : Nat) (hn : '/' ∉ name)
    (h : withExt name n = some w) : '/' ∉ w := by
  intro hc
  rcases mem_withExt h hc with h1 | h1 | h1
  · exact hn h1
  · revert h1; decide
  · exact slash_not_mem_partExt n h1

theorem withPart_simple (dir name : Str) (n : Nat) (hd : DirPrefix dir) (hn : '/' ∉ name) :
    withPart (dir ++ name) n = (withExt name n).map (dir ++ ·) := by
  simp only [withPart, splitPath_simple dir name hd hn]

theorem removePart_simple (dir name : Str) (hd : DirPrefix dir) (hn : '/' ∉ name) :
    removePart (dir ++ name) = (removeExt name).map (dir ++ ·) := by
  simp only [removePart, splitPath_simple dir name hd hn]

theorem withPart_some {dir name q : Str} {n : Nat} (hd : DirPrefix dir) (hn : '/' ∉ name)
    (h : withPart (dir ++ name) n = some q) :
    ∃ w, withExt name n = some w ∧ '/' ∉ w ∧ q = dir ++ w := by
  rw [withPart_simple dir name n hd hn] at h
  cases hw : withExt name n with
  | none => rw [hw] at h; cases h
  | some w =>
    rw [hw] at h
    cases h
    exact ⟨w, rfl, withExt_no_slash name w n hn hw, rfl⟩

theorem withPart_renumber (dir name q : Str) (n m : Nat) (hd : DirPrefix dir) (hn : '/' ∉ name)
    (h : withPart (dir ++ name) n = some q) :
    withPart q m = withPart (dir ++ name) m := by
  obtain ⟨w, hw, hsl, rfl⟩ := withPart_some hd hn h
  rw [withPart_simple dir w m hd hsl, withPart_simple dir name m hd hn,
    withExt_renumber name w n m hw]

theorem withPart_injective (dir name q : Str) (n m : Nat) (hd : DirPrefix dir) (hn : '/' ∉ name)
    (h1 : withPart (dir ++ name) n = some q) (h2 : withPart (dir ++ name) m = some q) :
    n = m := by
  obtain ⟨w, hw1, _, rfl⟩ := withPart_some hd hn h1
  obtain ⟨w2, hw2, _, h⟩ := withPart_some hd hn h2
  cases List.append_cancel_left h
  exact withExt_injective name w n m hw1 hw2

theorem removePart_withPart_pna (dir name q : Str) (n : Nat) (hd : DirPrefix dir)
    (hn : '/' ∉ name)
    (hp : ∃ stem e, splitExt name = some (stem, some e) ∧ e.map lower = ['p', 'n', 'a'] ∧
      NotMarked stem ∧ stem ≠ ['.'])
    (h : withPart (dir ++ name) n = some q) : removePart q = some (dir ++ name) := by
  obtain ⟨w, hw, hsl, rfl⟩ := withPart_some hd hn h
  rw [removePart_simple dir w hd hsl, removeExt_withExt_pna name w n hp hw]
  rfl

theorem removePart_withPart_other (dir name q : Str) (n : Nat) (hd : DirPrefix dir)
    (hn : '/' ∉ name) (hp : ¬ PnaExt name) (hm : ¬ Numbered name)
    (h : withPart (dir ++ name) n = some q) : removePart q = some (dir ++ name) := by
  obtain ⟨w, hw, hsl, rfl⟩ := withPart_some hd hn h
  rw [removePart_simple dir w hd hsl, removeExt_withExt_other name w n hw hp hm]
  rfl

theorem removePart_withPart_dotless (dir name q : Str) (n : Nat) (hd : DirPrefix dir)
    (hn : '/' ∉ name) (hdot : '.' ∉ name) (hne : name ≠ [])
    (h : withPart (dir ++ name) n = some q) : removePart q = some (dir ++ name) := by
  obtain ⟨w, hw, hsl, rfl⟩ := withPart_some hd hn h
  rw [removePart_simple dir w hd hsl, removeExt_withExt_dotless name w n hdot hne hw]
  rfl

/-- no file name, no part name -/
theorem neg_no_file_name : withExt "".toList 1 = none ∧ withExt "..".toList 1 = none := by
  -- `"lit".toList` is rewritten to the list of its characters by `String.toList_ofList` first:
  -- evaluating it makes the kernel encode and decode UTF-8, some ten thousand heartbeats a character, growing with
  -- the length
  repeat rw [String.toList_ofList]
  decide +kernel

/-- `..pna` (stem `.`) has an unmarked stem and renumbers consistently, yet removal gives `..`:
    the removal theorem needs `stem ≠ "."`.  `...pna` (stem `..`) does round-trip. -/
theorem neg_dot_stem_pna :
    let name := "..pna".toList
    splitExt name = some (".".toList, some "pna".toList) ∧ NotMarked ".".toList ∧
    withExt name 1 = some "..part1.pna".toList ∧
    withExt "..part1.pna".toList 2 = some "..part2.pna".toList ∧
    removeExt "..part1.pna".toList = some "..".toList ∧
    removeExt "...part1.pna".toList = some "...pna".toList := by
  repeat rw [String.toList_ofList]
  decide +kernel

/-- an already numbered `pna` name is not given back by removal: the stem must not be numbered -/
theorem neg_numbered_stem :
    withExt "a.part1.pna".toList 2 = some "a.part2.pna".toList ∧
    removeExt "a.part2.pna".toList = some "a.pna".toList ∧
    Numbered "a.part1".toList ∧ ¬ NotMarked "a.part1".toList := by
  repeat rw [String.toList_ofList]
  decide +kernel

/-- the same without `pna`: the marker is replaced, removal gives the stem -/
theorem neg_numbered_name :
    Numbered "a.part1".toList ∧ ¬ PnaExt "a.part1".toList ∧
    withExt "a.part1".toList 2 = some "a.part2".toList ∧
    removeExt "a.part2".toList = some "a".toList := by
  repeat rw [String.toList_ofList]
  decide +kernel

/-- between `¬ Numbered` and `NotMarked`: `part` + non-digits round-trips, with and without
    `pna` (`removeExt` tests the prefix `part` only, but always on the appended marker) -/
theorem partx_round_trip :
    ¬ Numbered "a.partx".toList ∧ ¬ NotMarked "a.partx".toList ∧
    withExt "a.partx.pna".toList 1 = some "a.partx.part1.pna".toList ∧
    removeExt "a.partx.part1.pna".toList = some "a.partx.pna".toList ∧
    ¬ Numbered "a.partition".toList ∧ ¬ NotMarked "a.partition".toList ∧
    withExt "a.partition".toList 1 = some "a.partition.part1".toList ∧
    removeExt "a.partition.part1".toList = some "a.partition".toList := by
  repeat rw [String.toList_ofList]
  decide +kernel

/-- `splitPath_simple` needs the directory prefix to end with the separator -/
theorem neg_dir_prefix :
    ¬ DirPrefix "dir".toList ∧
    splitPath ("dir".toList ++ "x".toList) ≠ ("dir".toList, "x".toList) := by
  repeat rw [String.toList_ofList]
  decide +kernel

/-- the removal statement without `stem ≠ "."` is false -/
theorem wanted_removeExt_withExt_pna_false :
    ¬ ∀ (name w : Str) (n : Nat), Good name →
      (∃ stem e, splitExt name = some (stem, some e) ∧ e.map lower = ['p', 'n', 'a'] ∧
        NotMarked stem) →
      withExt name n = some w → removeExt w = some name :=
  fun H => by
    obtain ⟨hs, hm, hw, _, hr, _⟩ := neg_dot_stem_pna
    have h := H _ _ 1 trivial ⟨_, _, hs, by rw [String.toList_ofList]; rfl, hm⟩ hw
    rw [hr] at h
    repeat rw [String.toList_ofList] at h
    cases h

example : withPart "dir/v1.2.pna".toList 3 = some "dir/v1.2.part3.pna".toList := by
  repeat rw [String.toList_ofList]
  decide +kernel
example : withPart "dir/v1.2.part3.pna".toList 10 = some "dir/v1.2.part10.pna".toList := by
  repeat rw [String.toList_ofList]
  decide +kernel
example : removePart "dir/v1.2.part10.pna".toList = some "dir/v1.2.pna".toList := by
  repeat rw [String.toList_ofList]
  decide +kernel
example : Good "v1.2.pna".toList := by decide
example : PnaExt "v1.2.PnA".toList ∧ ¬ PnaExt "archive.tar.gz".toList := by
  repeat rw [String.toList_ofList]
  decide +kernel
example : DirPrefix "dir/".toList ∧ '/' ∉ "v1.2.pna".toList := by
  repeat rw [String.toList_ofList]
  decide +kernel

/-- a foreign extension is kept: number, renumber, remove -/
example :
    withExt "backup.2024.01.tar".toList 2 = some "backup.2024.01.tar.part2".toList ∧
    withExt "backup.2024.01.tar.part2".toList 3 = some "backup.2024.01.tar.part3".toList ∧
    removeExt "backup.2024.01.tar.part3".toList = some "backup.2024.01.tar".toList := by
  repeat rw [String.toList_ofList]
  decide +kernel

/-- the names on which the code before the `fix:` went wrong -/
example :
    withExt "x.tar".toList 1 = some "x.tar.part1".toList ∧
    removeExt "x.tar.part1".toList = some "x.tar".toList ∧
    withExt "a.b.c.d".toList 1 = some "a.b.c.d.part1".toList ∧
    withExt "a.b.c.d.part1".toList 2 = some "a.b.c.d.part2".toList ∧
    withExt "a.b.c.d".toList 2 = some "a.b.c.d.part2".toList ∧
    withExt "...x".toList 1 = some "...x.part1".toList ∧
    withExt "...x.part1".toList 2 = some "...x.part2".toList ∧
    removeExt "...x.part2".toList = some "...x".toList ∧
    withExt "..x.y".toList 1 = some "..x.y.part1".toList := by
  repeat rw [String.toList_ofList]
  decide +kernel

/-- the general theorems instantiated -/
example (m : Nat) : withPart "dir/v1.2.part3.pna".toList m = withPart "dir/v1.2.pna".toList m := by
  have h := withPart_renumber "dir/".toList "v1.2.pna".toList "dir/v1.2.part3.pna".toList 3 m
  repeat rw [String.toList_ofList] at h
  repeat rw [String.toList_ofList]
  exact h (by decide) (by decide) (by decide +kernel)

example : removePart "dir/v1.2.part3.pna".toList = some "dir/v1.2.pna".toList := by
  have h := removePart_withPart_pna "dir/".toList "v1.2.pna".toList "dir/v1.2.part3.pna".toList 3
  repeat rw [String.toList_ofList] at h
  repeat rw [String.toList_ofList]
  exact h (by decide) (by decide) ⟨_, _, rfl, by decide, by decide, by decide⟩ (by decide +kernel)

example : removePart "d/backup.2024.01.tar.part2".toList = some "d/backup.2024.01.tar".toList := by
  have h := removePart_withPart_other "d/".toList "backup.2024.01.tar".toList
    "d/backup.2024.01.tar.part2".toList 2
  repeat rw [String.toList_ofList] at h
  repeat rw [String.toList_ofList]
  exact h (by decide) (by decide) (by decide +kernel) (by decide +kernel) (by decide +kernel)

end Pna.C15Part

#print axioms Pna.C15Part.decimal_nonempty
#print axioms Pna.C15Part.decimal_digits
#print axioms Pna.C15Part.decimal_no_dot_no_slash
#print axioms Pna.C15Part.decimal_left_inverse
#print axioms Pna.C15Part.decimal_injective
#print axioms Pna.C15Part.part_marker_decimal
#print axioms Pna.C15Part.part_marker_no_dot_no_slash
#print axioms Pna.C15Part.withExt_eq_none_iff
#print axioms Pna.C15Part.withExt_renumber
#print axioms Pna.C15Part.good_iff_renumber
#print axioms Pna.C15Part.good_all
#print axioms Pna.C15Part.good_withExt
#print axioms Pna.C15Part.good_of_not_pna
#print axioms Pna.C15Part.good_of_pna_ext
#print axioms Pna.C15Part.withExt_injective
#print axioms Pna.C15Part.removeExt_withExt_pna_strong
#print axioms Pna.C15Part.removeExt_withExt_pna
#print axioms Pna.C15Part.removeExt_withExt_other
#print axioms Pna.C15Part.removeExt_withExt_other_iff
#print axioms Pna.C15Part.removeExt_withExt_other_notMarked
#print axioms Pna.C15Part.removeExt_withExt_no_extension
#print axioms Pna.C15Part.removeExt_withExt_dotless
#print axioms Pna.C15Part.removeExt_renumbered_of
#print axioms Pna.C15Part.removeExt_renumbered
#print axioms Pna.C15Part.removeExt_renumbered_other
#print axioms Pna.C15Part.dirPrefix_nil
#print axioms Pna.C15Part.dirPrefix_slash
#print axioms Pna.C15Part.splitPath_simple
#print axioms Pna.C15Part.withExt_no_slash
#print axioms Pna.C15Part.withPart_simple
#print axioms Pna.C15Part.removePart_simple
#print axioms Pna.C15Part.withPart_renumber
#print axioms Pna.C15Part.withPart_injective
#print axioms Pna.C15Part.removePart_withPart_pna
#print axioms Pna.C15Part.removePart_withPart_other
#print axioms Pna.C15Part.removePart_withPart_dotless
#print axioms Pna.C15Part.neg_no_file_name
#print axioms Pna.C15Part.neg_dot_stem_pna
#print axioms Pna.C15Part.neg_numbered_stem
#print axioms Pna.C15Part.neg_numbered_name
#print axioms Pna.C15Part.partx_round_trip
#print axioms Pna.C15Part.neg_dir_prefix
#print axioms Pna.C15Part.wanted_removeExt_withExt_pna_false
