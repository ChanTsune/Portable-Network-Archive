import PnaVerif.Lemmas.Recut
import PnaVerif.Lemmas.Sizes
import PnaVerif.Lemmas.ArchiveRt
import PnaVerif.Lemmas.StreamView
import PnaVerif.Lemmas.Grouping
import PnaVerif.Props.C01
/-!
# C03 (entry and archive level) — decoding is independent of where data chunks are cut

"What is decoded from an archive depends only on the sequence of chunk types and on the concatenation of
consecutive data-chunk payloads, never on where data chunks are cut."

Two chunk lists are the same up to the cutting of data chunks iff their `streamView`s are equal
(`Lemmas/StreamView.lean`: consecutive FDAT — or SDAT — chunks are merged).  For such lists:

* `parseN_recut`, `parseS_recut`, `parseEntry_recut` — the entry parsers end the same way: the same error, a
  panic in both, or entries that agree on every field and on the concatenated data (`SameN`/`SameS`/`SameE`);
* `parseN_recut_needs_noSDAT`, `parseS_recut_needs_noFDAT` — the hypothesis "a normal entry carries no
  SDAT chunk / a solid entry no FDAT chunk" (`Unmixed`) is necessary: such chunks are kept as
  uninterpreted `extra` chunks, one per chunk, and `streamView` (like `EntryPart::split`) cuts them too;
* `sameN_content` — entries related by `SameN` give every reader of the data the same bytes and
  the same `compressed_size`;
* `groupItems_recut` — grouping chunks into items commutes with re-cutting (any carry buffer);
* `readArchive_recut` — whole archives: same number of entries, pairwise `SameE`, same kind of end.
-/
namespace Pna.C03R
open Pna

-- concrete values used by the non-vacuity examples: FHED payload = v0.0, file, store, no cipher, name "a"
def hdr : Bytes := [0, 0, 0, 0, 0, 0, 97]
def itemA : List Chunk := [⟨ChunkType.FHED, hdr⟩, ⟨ChunkType.FDAT, [1, 2, 3]⟩, ⟨ChunkType.FEND, []⟩]
def itemB : List Chunk :=
  [⟨ChunkType.FHED, hdr⟩, ⟨ChunkType.FDAT, [1]⟩, ⟨ChunkType.FDAT, [2, 3]⟩, ⟨ChunkType.FEND, []⟩]
def shdr : Bytes := [0, 0, 0, 0, 0]
def solidA : List Chunk := [⟨ChunkType.SHED, shdr⟩, ⟨ChunkType.SDAT, [1, 2, 3]⟩, ⟨ChunkType.SEND, []⟩]
def solidB : List Chunk :=
  [⟨ChunkType.SHED, shdr⟩, ⟨ChunkType.SDAT, []⟩, ⟨ChunkType.SDAT, [1, 2]⟩, ⟨ChunkType.SDAT, [3]⟩, ⟨ChunkType.SEND, []⟩]

/-- **`NormalEntry::try_from` does not depend on where FDAT chunks are cut.** -/
theorem parseN_recut (a b : List Chunk) (ha : ∀ c ∈ a, c.ty ≠ ChunkType.SDAT) (hb : ∀ c ∈ b, c.ty ≠ ChunkType.SDAT)
    (h : streamView a = streamView b) : OutcomeRel SameN (parseN a) (parseN b) :=
  Pna.parseN_recut a b ha hb h

-- non-vacuity of `parseN_recut`
example : (∀ c ∈ itemA, c.ty ≠ ChunkType.SDAT) ∧ (∀ c ∈ itemB, c.ty ≠ ChunkType.SDAT) ∧
    streamView itemA = streamView itemB ∧ (parseN itemA).isOk = true ∧ (parseN itemB).isOk = true ∧
    parseN itemA ≠ parseN itemB ∧ OutcomeRel SameN (parseN itemA) (parseN itemB) := by decide +kernel

/-- two SDAT chunks inside a normal entry; `mixedB`: the same with the two merged -/
def mixedA : List Chunk :=
  [⟨ChunkType.FHED, hdr⟩, ⟨ChunkType.SDAT, [1]⟩, ⟨ChunkType.SDAT, [2]⟩, ⟨ChunkType.FEND, []⟩]
def mixedB : List Chunk := [⟨ChunkType.FHED, hdr⟩, ⟨ChunkType.SDAT, [1, 2]⟩, ⟨ChunkType.FEND, []⟩]

theorem mixed_counterexample :
    streamView mixedA = streamView mixedB ∧
    (∃ e₁ e₂, parseN mixedA = .ok e₁ ∧ parseN mixedB = .ok e₂ ∧ e₁.extra ≠ e₂.extra) ∧
    ¬ OutcomeRel SameN (parseN mixedA) (parseN mixedB) := by
  refine ⟨by decide +kernel, ?_, by decide +kernel⟩
  refine ⟨{ header := ⟨0, 0, 0, 0, 0, 0, [97]⟩, phsf := none,
            extra := [⟨ChunkType.SDAT, [1]⟩, ⟨ChunkType.SDAT, [2]⟩], data := [], md := {}, xattrs := [] },
          { header := ⟨0, 0, 0, 0, 0, 0, [97]⟩, phsf := none,
            extra := [⟨ChunkType.SDAT, [1, 2]⟩], data := [], md := {}, xattrs := [] }, ?_, ?_, ?_⟩
  · decide +kernel
  · decide +kernel
  · decide +kernel

/-- The hypothesis of `parseN_recut` (no SDAT chunk) is necessary: SDAT chunks inside a normal entry are kept one by
    one as `extra` chunks, so merging them is visible (`mixed_counterexample`). -/
theorem parseN_recut_needs_noSDAT :
    ¬ ∀ a b : List Chunk, streamView a = streamView b → OutcomeRel SameN (parseN a) (parseN b) :=
  fun h => mixed_counterexample.2.2 (h mixedA mixedB mixed_counterexample.1)

/-- **`SolidEntry::try_from` does not depend on where SDAT chunks are cut.** -/
theorem parseS_recut (a b : List Chunk) (ha : ∀ c ∈ a, c.ty ≠ ChunkType.FDAT) (hb : ∀ c ∈ b, c.ty ≠ ChunkType.FDAT)
    (h : streamView a = streamView b) : OutcomeRel SameS (parseS a) (parseS b) :=
  Pna.parseS_recut a b ha hb h

example : (∀ c ∈ solidA, c.ty ≠ ChunkType.FDAT) ∧ (∀ c ∈ solidB, c.ty ≠ ChunkType.FDAT) ∧
    streamView solidA = streamView solidB ∧ (parseS solidA).isOk = true ∧ (parseS solidB).isOk = true ∧
    parseS solidA ≠ parseS solidB ∧ OutcomeRel SameS (parseS solidA) (parseS solidB) := by decide +kernel

def mixedSA : List Chunk :=
  [⟨ChunkType.SHED, shdr⟩, ⟨ChunkType.FDAT, [1]⟩, ⟨ChunkType.FDAT, [2]⟩, ⟨ChunkType.SEND, []⟩]
def mixedSB : List Chunk := [⟨ChunkType.SHED, shdr⟩, ⟨ChunkType.FDAT, [1, 2]⟩, ⟨ChunkType.SEND, []⟩]

theorem mixedS_counterexample :
    streamView mixedSA = streamView mixedSB ∧
    (∃ s₁ s₂, parseS mixedSA = .ok s₁ ∧ parseS mixedSB = .ok s₂ ∧ s₁.extra ≠ s₂.extra) ∧
    ¬ OutcomeRel SameS (parseS mixedSA) (parseS mixedSB) := by
  refine ⟨by decide +kernel, ?_, by decide +kernel⟩
  refine ⟨{ header := ⟨0, 0, 0, 0, 0⟩, phsf := none, data := [],
            extra := [⟨ChunkType.FDAT, [1]⟩, ⟨ChunkType.FDAT, [2]⟩] },
          { header := ⟨0, 0, 0, 0, 0⟩, phsf := none, data := [],
            extra := [⟨ChunkType.FDAT, [1, 2]⟩] }, ?_, ?_, ?_⟩
  · decide +kernel
  · decide +kernel
  · decide +kernel

theorem parseS_recut_needs_noFDAT :
    ¬ ∀ a b : List Chunk, streamView a = streamView b → OutcomeRel SameS (parseS a) (parseS b) :=
  fun h => mixedS_counterexample.2.2 (h mixedSA mixedSB mixedS_counterexample.1)

/-- **`ReadEntry::try_from` does not depend on where data chunks are cut.**  `hb` follows from `ha` and `h`
    (`Unmixed_of_svEq`, Lemmas/SplitRead.lean). -/
theorem parseEntry_recut (a b : List Chunk) (ha : Unmixed a) (hb : Unmixed b)
    (h : streamView a = streamView b) : OutcomeRel SameE (parseEntry a) (parseEntry b) :=
  Pna.parseEntry_recut a b ha hb h

example : Unmixed itemA ∧ Unmixed itemB ∧ streamView itemA = streamView itemB ∧
    (parseEntry itemA).isOk = true ∧ parseEntry itemA ≠ parseEntry itemB ∧
    OutcomeRel SameE (parseEntry itemA) (parseEntry itemB) := by decide +kernel
example : Unmixed solidA ∧ Unmixed solidB ∧ streamView solidA = streamView solidB ∧
    (parseEntry solidA).isOk = true ∧ parseEntry solidA ≠ parseEntry solidB ∧
    OutcomeRel SameE (parseEntry solidA) (parseEntry solidB) := by decide +kernel
-- `Unmixed` is a real restriction, and it is needed
example : ¬ Unmixed mixedA ∧ ¬ Unmixed mixedSA ∧
    ¬ OutcomeRel SameE (parseEntry mixedA) (parseEntry mixedB) ∧
    ¬ OutcomeRel SameE (parseEntry mixedSA) (parseEntry mixedSB) := by decide +kernel

/-- Entries that are the same up to the cutting of their data give every reader the same bytes
    (decryption and decompression see the concatenation only) and the same `compressed_size`. -/
theorem sameN_content (P : BlockPerm) (C : Compressor) (sel : CipherSel) (key : Bytes) (e₁ e₂ : NormalEntry)
    (h : SameN e₁ e₂) :
    readData P C sel key e₁.data = readData P C sel key e₂.data ∧ e₁.compressedSize = e₂.compressedSize :=
  ⟨C01.readData_recut P C sel key e₁.data e₂.data h.2.2.2.2.2, by rw [compressedSize_eq, compressedSize_eq, h.2.2.2.2.2]⟩

/-- … in particular for two successful parses of re-cut chunk lists. -/
theorem parseN_recut_content (P : BlockPerm) (C : Compressor) (sel : CipherSel) (key : Bytes)
    (a b : List Chunk) (ha : ∀ c ∈ a, c.ty ≠ ChunkType.SDAT) (hb : ∀ c ∈ b, c.ty ≠ ChunkType.SDAT)
    (h : streamView a = streamView b) (e₁ e₂ : NormalEntry) (h₁ : parseN a = .ok e₁) (h₂ : parseN b = .ok e₂) :
    readData P C sel key e₁.data = readData P C sel key e₂.data ∧ e₁.compressedSize = e₂.compressedSize := by
  have hr := parseN_recut a b ha hb h
  rw [h₁, h₂] at hr
  exact sameN_content P C sel key e₁ e₂ hr

example : SameN { header := ⟨0, 0, 0, 0, 0, 0, [97]⟩, phsf := none, extra := [], data := [[1, 2, 3]], md := {}, xattrs := [] }
    { header := ⟨0, 0, 0, 0, 0, 0, [97]⟩, phsf := none, extra := [], data := [[1], [], [2, 3]], md := {}, xattrs := [] } := by
  decide +kernel
example : parseN itemA = .ok { header := ⟨0, 0, 0, 0, 0, 0, [97]⟩, phsf := none, extra := [], data := [[1, 2, 3]], md := {}, xattrs := [] } ∧
    parseN itemB = .ok { header := ⟨0, 0, 0, 0, 0, 0, [97]⟩, phsf := none, extra := [], data := [[1], [2, 3]], md := {}, xattrs := [] } := by
  decide +kernel

/-- **Grouping chunks into items commutes with re-cutting**, general form: the carry buffers may
    themselves be cut differently (a data chunk may be merged across the boundary between the carry
    and the first chunk, so the conclusion is about `streamView` of whole items). -/
theorem groupItems_recut_carry (cur₁ cur₂ : List Chunk) (nx : Bool) (xs ys : List Chunk)
    (hc : streamView cur₁ = streamView cur₂) (h : streamView xs = streamView ys) :
    (groupItems cur₁ nx xs).2.2.1 = (groupItems cur₂ nx ys).2.2.1 ∧
    (groupItems cur₁ nx xs).2.2.2 = (groupItems cur₂ nx ys).2.2.2 ∧
    (groupItems cur₁ nx xs).1.length = (groupItems cur₂ nx ys).1.length ∧
    (∀ (k : Nat) (h₁ : k < (groupItems cur₁ nx xs).1.length) (h₂ : k < (groupItems cur₂ nx ys).1.length),
      streamView (groupItems cur₁ nx xs).1[k] = streamView (groupItems cur₂ nx ys).1[k]) ∧
    streamView (groupItems cur₁ nx xs).2.1 = streamView (groupItems cur₂ nx ys).2.1 := by
  obtain ⟨g1, g2, g3, g4⟩ := Pna.groupItems_recut cur₁ cur₂ nx xs ys hc h
  exact ⟨g3, g4, g1.length_eq, g1.getElem, g2⟩

/-- `groupItems_recut_carry` with one carry buffer (in particular `cur = []`), the two results destructured -/
theorem groupItems_recut (cur : List Chunk) (nx : Bool) (xs ys : List Chunk) (h : streamView xs = streamView ys) :
    match groupItems cur nx xs, groupItems cur nx ys with
    | (is₁, l₁, n₁, e₁), (is₂, l₂, n₂, e₂) =>
      n₁ = n₂ ∧ e₁ = e₂ ∧ is₁.length = is₂.length ∧
      (∀ (k : Nat) (h₁ : k < is₁.length) (h₂ : k < is₂.length), streamView is₁[k] = streamView is₂[k]) ∧
      streamView l₁ = streamView l₂ :=
  groupItems_recut_carry cur cur nx xs ys rfl h

example : streamView (itemA ++ solidA ++ [⟨ChunkType.FDAT, [7]⟩, ⟨ChunkType.FDAT, [8]⟩])
      = streamView (itemB ++ solidB ++ [⟨ChunkType.FDAT, [7, 8]⟩]) ∧
    (groupItems [] false (itemA ++ solidA ++ [⟨ChunkType.FDAT, [7]⟩, ⟨ChunkType.FDAT, [8]⟩])).1 = [itemA, solidA] ∧
    (groupItems [] false (itemB ++ solidB ++ [⟨ChunkType.FDAT, [7, 8]⟩])).1 = [itemB, solidB] ∧
    itemA ≠ itemB := by decide +kernel
-- merging across the carry boundary
example : (groupItems [⟨ChunkType.FHED, hdr⟩, ⟨ChunkType.FDAT, [1]⟩] false [⟨ChunkType.FDAT, [2, 3]⟩, ⟨ChunkType.FEND, []⟩]).1 = [itemB] ∧
    streamView [⟨ChunkType.FHED, hdr⟩, ⟨ChunkType.FDAT, [1]⟩] = streamView [⟨ChunkType.FHED, hdr⟩, ⟨ChunkType.FDAT, []⟩, ⟨ChunkType.FDAT, [1]⟩] := by
  decide +kernel

/-- `readArchive_recut` for any tokeniser (stream or slice reader) and any part of a multipart archive: both chunk
    iterators return the same first chunk, bodies that are the same up to cutting, and the same end state.  The
    carry buffers handed over from the previous part may be cut differently, and so may those handed on. -/
theorem readArchive_recut_chunks (chunks₁ chunks₂ : Bytes → List Chunk × Outcome Unit) (b₁ b₂ : Bytes)
    (hd : Chunk) (carry₁ carry₂ xs ys : List Chunk) (st : Outcome Unit)
    (t₁ : chunks₁ b₁ = (hd :: xs, st)) (t₂ : chunks₂ b₂ = (hd :: ys, st))
    (ux : ∀ it ∈ (groupItems carry₁ false xs).1, Unmixed it) (uy : ∀ it ∈ (groupItems carry₂ false ys).1, Unmixed it)
    (hc : streamView carry₁ = streamView carry₂) (h : streamView xs = streamView ys) :
    let r₁ := readArchiveWith chunks₁ carry₁ b₁
    let r₂ := readArchiveWith chunks₂ carry₂ b₂
    r₁.header = r₂.header ∧ r₁.entries.length = r₂.entries.length ∧
    (∀ (k : Nat) (h₁ : k < r₁.entries.length) (h₂ : k < r₂.entries.length), SameE (r₁.entries[k]'h₁) (r₂.entries[k]'h₂)) ∧
    OutcomeRel (fun _ _ => True) r₁.status r₂.status ∧ r₁.next = r₂.next ∧
    streamView r₁.carry = streamView r₂.carry := by
  intro r₁ r₂
  obtain ⟨g1, g2, g3, _⟩ := Pna.groupItems_recut carry₁ carry₂ false xs ys hc h
  obtain ⟨p1, p2⟩ := parseItems_rel g1 ux uy
  rw [show r₁ = _ from readArchiveWith_cons chunks₁ carry₁ b₁ hd xs st t₁,
    show r₂ = _ from readArchiveWith_cons chunks₂ carry₂ b₂ hd ys st t₂]
  by_cases ha : hd.ty ≠ ChunkType.AHED
  · rw [if_pos ha, if_pos ha]
    exact ⟨rfl, rfl, fun _ h => absurd h (Nat.not_lt_zero _), rfl, rfl, rfl⟩
  · rw [if_neg ha, if_neg ha]
    cases decAHED hd.data with
    | error e => exact ⟨rfl, rfl, fun _ h => absurd h (Nat.not_lt_zero _), rfl, rfl, rfl⟩
    | panic s => exact ⟨rfl, rfl, fun _ h => absurd h (Nat.not_lt_zero _), True.intro, rfl, rfl⟩
    | ok hh =>
      refine ⟨rfl, p1.length_eq, p1.getElem, ?_, g3, g2⟩
      simp only
      revert p2
      cases (parseItems (groupItems carry₁ false xs).1).2 <;> cases (parseItems (groupItems carry₂ false ys).1).2 <;>
        simp only [OutcomeRel, imp_self, false_implies]
      intro _
      exact OutcomeRel.refl (fun _ => True.intro) st

-- `irreducible`: when the index proofs in `r₁.entries[k]'h₁` are elaborated, the validity argument of `getElem` is
-- still a metavariable, and the unifier would evaluate the reader on the concrete signature bytes
attribute [local irreducible] readArchiveStream in
/-- **Archives that differ only in where data chunks are cut decode to the same entries.**
    `xs`, `ys` are the bodies (the chunks between AHED and AEND) of two one-part archives.  `ChunksFit` (the 32-bit
    length field) and "no AEND in the body" make the tokeniser return the body (`chunksStream_archiveBytes`); `hn`
    is not used.  The end of iteration is compared by kind: success, the same error, or a panic in both. -/
theorem readArchive_recut (n : Nat) (hn : n < 2 ^ 32) (xs ys : List Chunk)
    (fx : ChunksFit xs) (fy : ChunksFit ys)
    (ex : ∀ c ∈ xs, c.ty ≠ ChunkType.AEND) (ey : ∀ c ∈ ys, c.ty ≠ ChunkType.AEND)
    (ux : ∀ it ∈ (groupItems [] false xs).1, Unmixed it) (uy : ∀ it ∈ (groupItems [] false ys).1, Unmixed it)
    (h : streamView xs = streamView ys) :
    let r₁ := readArchiveStream (signature ++ encodeChunks
      ([⟨ChunkType.AHED, encAHED ⟨0, 0, n⟩⟩] ++ xs ++ [⟨ChunkType.AEND, []⟩]))
    let r₂ := readArchiveStream (signature ++ encodeChunks
      ([⟨ChunkType.AHED, encAHED ⟨0, 0, n⟩⟩] ++ ys ++ [⟨ChunkType.AEND, []⟩]))
    r₁.entries.length = r₂.entries.length ∧
    (∀ (k : Nat) (h₁ : k < r₁.entries.length) (h₂ : k < r₂.entries.length), SameE (r₁.entries[k]'h₁) (r₂.entries[k]'h₂)) ∧
    OutcomeRel (fun _ _ => True) r₁.status r₂.status ∧ r₁.next = r₂.next := by
  have ux' : ∀ it ∈ (groupItems [] false (xs ++ [⟨ChunkType.AEND, []⟩])).1, Unmixed it := by
    rw [groupItems_upto_aend xs _ [] ex rfl]
    exact ux
  have uy' : ∀ it ∈ (groupItems [] false (ys ++ [⟨ChunkType.AEND, []⟩])).1, Unmixed it := by
    rw [groupItems_upto_aend ys _ [] ey rfl]
    exact uy
  unfold readArchiveStream
  exact (readArchive_recut_chunks chunksStream chunksStream _ _ _ [] [] _ _ _
    (chunksStream_archiveBytes n xs fx ex) (chunksStream_archiveBytes n ys fy ey) ux' uy' rfl
    (SvEq.append h (SvEq.refl _))).2.imp_right fun h => h.imp_right fun h => h.imp_right And.left

-- non-vacuity: a two-entry archive (one file, one solid block) and the same with its data chunks re-cut
def bodyA : List Chunk := itemA ++ solidA
def bodyB : List Chunk := itemB ++ solidB
def archiveOf (xs : List Chunk) : Bytes :=
  signature ++ encodeChunks ([⟨ChunkType.AHED, encAHED ⟨0, 0, 1⟩⟩] ++ xs ++ [⟨ChunkType.AEND, []⟩])

example : ChunksFit bodyA ∧ ChunksFit bodyB ∧ (∀ c ∈ bodyA, c.ty ≠ ChunkType.AEND) ∧ (∀ c ∈ bodyB, c.ty ≠ ChunkType.AEND) ∧
    (∀ it ∈ (groupItems [] false bodyA).1, Unmixed it) ∧ (∀ it ∈ (groupItems [] false bodyB).1, Unmixed it) ∧
    streamView bodyA = streamView bodyB ∧ bodyA ≠ bodyB := by
  decide +kernel
example : (readArchiveStream (archiveOf bodyA)).entries.length = 2 ∧ (readArchiveStream (archiveOf bodyA)).status = .ok () ∧
    (readArchiveStream (archiveOf bodyB)).entries.length = 2 ∧ (readArchiveStream (archiveOf bodyB)).status = .ok () ∧
    (readArchiveStream (archiveOf bodyA)).entries ≠ (readArchiveStream (archiveOf bodyB)).entries := by
  decide +kernel
-- an item that fails to parse (empty FHED payload): the same error in both
example : (readArchiveStream (archiveOf (itemA ++ [⟨ChunkType.FHED, []⟩, ⟨ChunkType.FDAT, [1, 2]⟩, ⟨ChunkType.FEND, []⟩]))).status
      = .error .invalidData ∧
    (readArchiveStream (archiveOf (itemB ++ [⟨ChunkType.FHED, []⟩, ⟨ChunkType.FDAT, [1]⟩, ⟨ChunkType.FDAT, [2]⟩, ⟨ChunkType.FEND, []⟩]))).status
      = .error .invalidData ∧
    (readArchiveStream (archiveOf (itemA ++ [⟨ChunkType.FHED, []⟩, ⟨ChunkType.FDAT, [1, 2]⟩, ⟨ChunkType.FEND, []⟩]))).entries.length = 1 := by
  decide +kernel

-- non-vacuity: the second part of a multipart archive, the carry buffer holding the start of an entry
example : chunksStream (signature ++ encodeChunks [⟨ChunkType.AHED, encAHED ⟨0, 0, 2⟩⟩, ⟨ChunkType.FDAT, [2, 3]⟩,
      ⟨ChunkType.FEND, []⟩, ⟨ChunkType.AEND, []⟩])
      = (⟨ChunkType.AHED, encAHED ⟨0, 0, 2⟩⟩ :: [⟨ChunkType.FDAT, [2, 3]⟩, ⟨ChunkType.FEND, []⟩, ⟨ChunkType.AEND, []⟩], .ok ()) ∧
    (∀ it ∈ (groupItems [⟨ChunkType.FHED, hdr⟩, ⟨ChunkType.FDAT, [1]⟩] false
      [⟨ChunkType.FDAT, [2, 3]⟩, ⟨ChunkType.FEND, []⟩, ⟨ChunkType.AEND, []⟩]).1, Unmixed it) ∧
    (readArchiveWith chunksStream [⟨ChunkType.FHED, hdr⟩, ⟨ChunkType.FDAT, [1]⟩]
      (signature ++ encodeChunks [⟨ChunkType.AHED, encAHED ⟨0, 0, 2⟩⟩, ⟨ChunkType.FDAT, [2, 3]⟩,
        ⟨ChunkType.FEND, []⟩, ⟨ChunkType.AEND, []⟩])).entries.length = 1 := by
  decide +kernel

end Pna.C03R
