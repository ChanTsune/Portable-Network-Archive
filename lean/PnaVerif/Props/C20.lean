import PnaVerif.Lemmas.Overwrite
/-!
# C20 — without --overwrite no existing file is ever replaced or modified
Model: each command's effects on its output paths as an ordered plan over the abstract file
system (`Model/Cli/Overwrite.lean`): existence guards (following links, or not), truncating
creates, `create_new` for part files (after the `fix:`), the single-part rename behind an
`lguard` (after the `fix:`), `create_dir_all`.
"Safe" is `Preserved` (`Lemmas/Fs.lean`) from the state before the plan to the state after it:
* `create_concat_safe` — `create`/`concat`: everything pre-existing is preserved; a conflict is an
  error and nothing is done;
* `split_safe_multi` / `split_safe_single` / `split_conflict_reported` / `part_files_never_truncate` —
  `split` and `create --split`: part files are only created where nothing was (any pre-existing
  object at a part path, even a dangling link, fails the run and is left untouched); a single part
  is renamed only onto a free name (`split_safe_single` is `Preserved` except at the path of the
  part itself, which the rename takes away);
* `extract_file_conflict_reported` / `extract_file_safe` — extraction of a file: conflict ⇒ error;
  preservation holds provided the guard still holds after `create_dir_all(parent)`;
  `extract_window` shows why that proviso is needed (an `--out-dir` containing `missing/..`:
  user-supplied, never produced from an entry name, which part 1 of C09 keeps free of `..`).
-/
namespace Pna.C20
open Pna Pna.Fs Pna.Cli

theorem create_concat_safe (cwd : Path) (fs : Fs) (hok : fs.InoOk) (archive content : Bytes) :
    Preserved fs (runPlan cwd fs (planCreate archive content)).1 ∧
    (fs.existsP cwd archive = true → runPlan cwd fs (planCreate archive content) = (fs, some .exists)) := by
  constructor
  · cases hg : fs.existsP cwd archive with
    | true => simp [planCreate, runPlan, runEff, hg]; exact Preserved.refl _
    | false =>
      cases hc : fs.createFile cwd archive content with
      | error e => simp [planCreate, runPlan, runEff, hg, hc]; exact Preserved.refl _
      | ok fs' =>
        simp [planCreate, runPlan, runEff, hg, hc]
        exact (create_guarded_preserved fs fs' cwd archive content hok hg hc).1
  · intro hg
    simp [planCreate, runPlan, runEff, hg]

theorem split_safe_multi (cwd : Path) (fs : Fs) (hok : fs.InoOk) (first : Bytes) (parts : List (Bytes × Bytes))
    (base : Bytes) (hp : parts.length ≠ 1) : Preserved fs (runPlan cwd fs (planSplit first parts base)).1 := by
  have : planSplit first parts base = [Eff.guard first] ++ parts.map (fun (p, c) => Eff.createNew p c) := by
    unfold planSplit
    match parts, hp with
    | [], _ => simp
    | [_], hp => simp at hp
    | _ :: _ :: _, _ => simp
  rw [this]
  cases hg : fs.existsP cwd first with
  | true => simp [runPlan, runEff, hg]; exact Preserved.refl _
  | false =>
    simp only [List.singleton_append, runPlan, runEff, hg]
    exact (createNews_preserved cwd parts fs hok).1

theorem split_safe_single (cwd : Path) (fs : Fs) (hok : fs.InoOk) (first p c base : Bytes) :
    let fs1 := (runPlan cwd fs [Eff.guard first, Eff.createNew p c]).1
    let r := (runPlan cwd fs (planSplit first [(p, c)] base)).1
    (∀ q n, q ≠ [] → entryPath fs1 cwd p ≠ some q → fs.lookup q = some n → r.lookup q = some n) ∧
    (∀ q ino, fs.lookup q = some (.file ino) → r.content ino = fs.content ino) := by
  have hplan : planSplit first [(p, c)] base = [Eff.guard first, Eff.createNew p c, Eff.lguard base, Eff.rename p base] := by
    simp [planSplit]
  rw [hplan]
  cases hg : fs.existsP cwd first with
  | true => simp [runPlan, runEff, hg]
  | false =>
    cases hc : fs.createNewFile cwd p c with
    | error e => simp [runPlan, runEff, hg, hc]
    | ok fs1 =>
      have ⟨p1, _⟩ := createNew_preserved fs fs1 cwd p c hok hc
      cases hl : fs1.lexists cwd base with
      | true => simp [runPlan, runEff, hg, hc, hl]; exact ⟨fun q n hq _ h => p1.1 q n hq h, p1.2⟩
      | false =>
        cases hr : fs1.renameP cwd p base with
        | error e => simp [runPlan, runEff, hg, hc, hl, hr]; exact ⟨fun q n hq _ h => p1.1 q n hq h, p1.2⟩
        | ok fs2 =>
          have ⟨r1, r2⟩ := rename_lguarded_preserved fs1 fs2 cwd p base hl hr
          simp [runPlan, runEff, hg, hc, hl, hr]
          exact ⟨fun q n hq hne h => r1 q n hq hne (p1.1 q n hq h), fun q ino h => by rw [r2, p1.2 q ino h]⟩

theorem split_conflict_reported (cwd : Path) (fs : Fs) (first : Bytes) (parts : List (Bytes × Bytes)) (base : Bytes)
    (h : fs.existsP cwd first = true) : runPlan cwd fs (planSplit first parts base) = (fs, some .exists) := by
  simp [planSplit, runPlan, runEff, h]

theorem part_files_never_truncate (cwd : Path) (fs fs' : Fs) (hok : fs.InoOk) (s c : Bytes)
    (h : fs.createNewFile cwd s c = .ok fs') : Preserved fs fs' := (createNew_preserved fs fs' cwd s c hok h).1

theorem extract_file_conflict_reported (cwd : Path) (fs : Fs) (hok : fs.InoOk) (dest parent content : Bytes) :
    fs.existsP cwd dest = true → runPlan cwd fs (planExtractFile dest parent content) = (fs, some .exists) := by
  intro hg
  simp [planExtractFile, runPlan, runEff, hg]

theorem extract_file_safe (cwd : Path) (fs : Fs) (hok : fs.InoOk) (dest parent content : Bytes)
    (h2 : ∀ fs1, fs.createDirAll cwd parent = .ok fs1 → fs1.existsP cwd dest = false) :
    Preserved fs (runPlan cwd fs (planExtractFile dest parent content)).1 := by
  cases hg : fs.existsP cwd dest with
  | true => simp [planExtractFile, runPlan, runEff, hg]; exact Preserved.refl _
  | false =>
    cases hm : fs.createDirAll cwd parent with
    | error e => simp [planExtractFile, runPlan, runEff, hg, hm]; exact Preserved.refl _
    | ok fs1 =>
      have ⟨p1, ok1⟩ := createDirAll_preserved fs fs1 cwd parent hm
      cases hc : fs1.createFile cwd dest content with
      | error e => simp [planExtractFile, runPlan, runEff, hg, hm, hc]; exact p1
      | ok fs2 =>
        simp [planExtractFile, runPlan, runEff, hg, hm, hc]
        exact p1.trans (create_guarded_preserved fs1 fs2 cwd dest content (ok1 hok) (h2 fs1 hm) hc).1

/-- the proviso of `extract_file_safe` cannot be dropped (user-supplied `--out-dir missing/..`) -/
theorem extract_window :
    ¬ (∀ (cwd : Path) (fs : Fs) (dest parent content : Bytes), fs.InoOk →
        Preserved fs (runPlan cwd fs (planExtractFile dest parent content)).1) := by
  intro h
  have hp := (h [[115]] windowFs windowDest windowParent [9] windowFs_inoOk).2 [[115], [102]] 1 planExtractFile_window.2.1
  rw [planExtractFile_window.2.2.2.2.2, planExtractFile_window.2.2.1] at hp
  cases hp

end Pna.C20
