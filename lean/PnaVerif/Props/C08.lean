import PnaVerif.Props.C01
/-!
# C08 — encrypted archives leak nothing; salts and IVs are fresh  (data-flow structure)
No theorem about real AES/Camellia/KDFs is possible here; what is proved is *where* secret
data can flow in the writer pipeline:
* `cbc_plaintext_only_through_E` — in CBC mode the stored bytes depend on the plaintext only
  through applications of the block cipher: replace `E` by a function that ignores its block
  and the output no longer depends on the plaintext at all (only on its number of blocks);
* `ctr_keystream_independent` — in CTR mode the stored bytes are plaintext XOR a keystream that
  is a function of (cipher, key, IV, position) only;
* `stored_layout` — the stored slices concatenate to the IV followed by the cipher stage's output:
  the key enters only as the argument of that stage (the password is not a parameter of the
  pipeline model).
The last two theorems are about definitions made in this file, which no model function uses:
* `phsf_drops_hash` — `phsfOf` transcribes the `hash.take()` of `entry/write.rs::hash`; the theorem
  unfolds it: the record it returns has no hash field, and its fields with the hash appended are
  those of the PHC record.  It checks the transcription, not a modelled writer.
* `draws_fresh` — `contextDraws n` numbers the RNG draws "context `i` takes draw `2i` for its salt
  and `2i+1` for its IV"; the theorem says that this list is `0, …, 2n-1` without repetition.  The
  model's writers take `iv` as a parameter and model no RNG: that every encrypted context (entry,
  solid stream, `write_file` call) makes one salt draw and one IV draw of its own is read off
  `to_hashed` and stated in the comment on `contextDraws`; it is not a theorem.
That salts and IVs are fresh and pairwise distinct *values*, that ciphertext hides plaintext, and
that the key does not appear in any encoding are sampled by the `roundtrip` family (canaries,
independent key re-derivation, pairwise-distinct salts/IVs across the run).
-/
namespace Pna.C08
open Pna

/-- CBC: the plaintext reaches the output only through `E`. -/
theorem cbc_plaintext_only_through_E (P : BlockPerm) (hE : ∀ k b b', P.E k b = P.E k b')
    (k iv : Bytes) (ws ws' : List Bytes)
    (h : (toBlocks (pkcs7Pad ws.flatten)).length = (toBlocks (pkcs7Pad ws'.flatten)).length) :
    cbcWriterRun P k iv ws = cbcWriterRun P k iv ws' := by
  rw [cbcWriterRun_eq, cbcWriterRun_eq]
  exact cbcEncBlocks_ignores P hE k iv iv _ _ h

/-- CTR: output = plaintext XOR keystream(cipher, key, IV, position). -/
theorem ctr_keystream_independent (P : BlockPerm) (k iv : Bytes) (ws : List Bytes) :
    (ctrWriterRun P k iv 0 ws).flatten = ctrApply P k iv 0 ws.flatten := ctrWriterRun_flatten P k iv 0 ws

/-- Stored layout of an encrypted entry: IV, then the cipher stage's output, nothing else. -/
theorem stored_layout (P : BlockPerm) (C : Compressor) (sel : CipherSel) (hs : sel ≠ .none) (key iv : Bytes)
    (ws : List Bytes) :
    (buildData P C sel key iv ws).flatten = iv ++ (cipherWrites P sel key iv (C.comp ws)).flatten ∧
    (streamData P C sel key iv ws).flatten = iv ++ (cipherWrites P sel key iv (C.comp ws)).flatten :=
  ⟨buildData_flatten P C sel key iv ws hs, streamData_flatten P C sel key iv ws hs⟩

/-- PHC record (password-hash crate) as far as the writer handles it. -/
structure Phc where
  alg : String
  version : Option String
  params : Option String
  salt : Option String
  hash : Option String

def Phc.fields (p : Phc) : List String :=
  [p.alg] ++ p.version.toList ++ p.params.toList ++ p.salt.toList ++ p.hash.toList

/-- `entry/write.rs::hash`: `let hash = password_hash.hash.take()…; (hash, password_hash.to_string())` -/
def phsfOf (p : Phc) : Option String × Phc := (p.hash, { p with hash := none })

theorem phsf_drops_hash (p : Phc) (h : String) (hh : p.hash = some h) :
    (phsfOf p).2.hash = none ∧ (phsfOf p).2.fields ++ [h] = p.fields ∧ (phsfOf p).1 = some h := by
  simp [phsfOf, Phc.fields, hh]

/-- A numbering of RNG draws, posited here (no model function draws from an RNG): context `i` uses
    draw `2i` for its salt and `2i+1` for its IV (`to_hashed`: `random::salt_string()` then
    `random::random_vec(16)`), one context per encrypted entry / solid stream / `write_file` call. -/
def contextDraws (nContexts : Nat) : List (Nat × Nat) := (List.range nContexts).map fun i => (2 * i, 2 * i + 1)

theorem draws_fresh (n : Nat) :
    ((contextDraws n).flatMap fun (s, v) => [s, v]).Nodup := by
  -- the draws are 0, 1, …, 2n-1 in this order
  have h : ((contextDraws n).flatMap fun (s, v) => [s, v]) = List.range (2 * n) := by
    unfold contextDraws
    induction n with
    | zero => rfl
    | succ n ih =>
      rw [List.range_succ, List.map_append, List.flatMap_append, ih, Nat.mul_succ, List.range_succ,
        List.range_succ, List.append_assoc]
      rfl
  rw [h]
  exact List.nodup_range

example : (contextDraws 3) = [(0, 1), (2, 3), (4, 5)] := by decide

end Pna.C08
