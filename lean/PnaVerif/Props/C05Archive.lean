import PnaVerif.Lemmas.ListFacts
import PnaVerif.Lemmas.Alter
import PnaVerif.Lemmas.Grouping
/-!
# C05 (archive level) — one altered byte after the signature: what is detected

An encoded chunk is `be32 len ++ type ++ data ++ be32 crc`; the CRC covers `type ++ data`.

* `alter_chunk_detected` (+ `_slice`): one altered byte of chunk number `i`, outside its length field
  (offset `4 ≤ j`): both chunk iterators return exactly the first `i` chunks, then `InvalidData`.
* `alter_length_partial` (+ `_slice`): one altered byte *of the length field* (`j < 4`).  CRC-32 cannot exclude
  that the re-framed bytes are consistent, so only: the first `i` chunks come out unchanged and whatever
  follows is not the original chunk `i` (`length_alteration_can_go_undetected`: a payload that embeds a
  CRC-consistent frame, read with `ok` and different content after ONE altered length byte).
  `alter_length_eof`: if the new length exceeds the remaining bytes, the iterators return the first `i` chunks and
  `UnexpectedEof`.
* `alter_item_detected`: a written archive, one altered non-length byte in chunk `ci` of item `m`: the reader
  returns exactly the first `m` raw items and their parse, never ends with `ok`, and ends with `InvalidData`
  when those items parse.  `alter_ahed_detected`, `alter_anxt_detected`, `alter_aend_detected`: the
  special positions (header chunk, trailing ANXT / AEND chunks).
* `alter_item_never_ok`, `alter_chunk_never_ok`: never a successful read.
-/
namespace Pna.C05A
open Pna

theorem alter_chunk_detected (cs : List Chunk) (rest : Bytes) (hfit : ChunksFit cs)
    (i : Nat) (hi : i < cs.length) (hno : ∀ c ∈ cs.take i, c.ty ≠ ChunkType.AEND)
    (j : Nat) (hj4 : 4 ≤ j) (hj : j < (cs[i]).encode.length)
    (v : UInt8) (hv : v ≠ (cs[i]).encode[j]) :
    chunksStream ((signature ++ encodeChunks cs ++ rest).set (8 + (encodeChunks (cs.take i)).length + j) v)
      = (cs.take i, .error .invalidData) := by
  have h := chunksStream_alter_detected_split (cs.take i) cs[i] (cs.drop (i + 1)) rest
    (fun c hc => hfit c (List.mem_of_mem_take hc)) hno (hfit _ (List.getElem_mem hi)) j hj4 hj v hv
  rwa [← split_at_index cs i hi] at h

theorem alter_chunk_detected_slice (cs : List Chunk) (rest : Bytes) (hfit : ChunksFit cs)
    (i : Nat) (hi : i < cs.length) (hno : ∀ c ∈ cs.take i, c.ty ≠ ChunkType.AEND)
    (j : Nat) (hj4 : 4 ≤ j) (hj : j < (cs[i]).encode.length)
    (v : UInt8) (hv : v ≠ (cs[i]).encode[j]) :
    chunksSlice ((signature ++ encodeChunks cs ++ rest).set (8 + (encodeChunks (cs.take i)).length + j) v)
      = (cs.take i, .error .invalidData) := by
  rw [chunksSlice_eq_chunksStream]; exact alter_chunk_detected cs rest hfit i hi hno j hj4 hj v hv

theorem alter_length_partial (cs : List Chunk) (rest : Bytes) (hfit : ChunksFit cs)
    (i : Nat) (hi : i < cs.length) (hno : ∀ c ∈ cs.take i, c.ty ≠ ChunkType.AEND)
    (j : Nat) (hj : j < 4) (v : UInt8)
    (hv : v ≠ (cs[i]).encode[j]'(by rw [Chunk.encode_length]; omega)) :
    ∃ more st, chunksStream ((signature ++ encodeChunks cs ++ rest).set (8 + (encodeChunks (cs.take i)).length + j) v)
        = (cs.take i ++ more, st) ∧ (∀ c, more.head? = some c → c ≠ cs[i]) := by
  have h := chunksStream_set (cs.take i) cs[i] (cs.drop (i + 1)) rest
    (fun c hc => hfit c (List.mem_of_mem_take hc)) hno j v
  rw [← split_at_index cs i hi] at h
  refine ⟨_, _, h, fun d hd => ?_⟩
  obtain ⟨r2, hr2⟩ := chunksStream_head _ _ hd
  exact decodeStream_alter_len cs[i] _ j (by rw [Chunk.encode_length]; omega) v hv d r2 hr2

theorem alter_length_partial_slice (cs : List Chunk) (rest : Bytes) (hfit : ChunksFit cs)
    (i : Nat) (hi : i < cs.length) (hno : ∀ c ∈ cs.take i, c.ty ≠ ChunkType.AEND)
    (j : Nat) (hj : j < 4) (v : UInt8)
    (hv : v ≠ (cs[i]).encode[j]'(by rw [Chunk.encode_length]; omega)) :
    ∃ more st, chunksSlice ((signature ++ encodeChunks cs ++ rest).set (8 + (encodeChunks (cs.take i)).length + j) v)
        = (cs.take i ++ more, st) ∧ (∀ c, more.head? = some c → c ≠ cs[i]) := by
  rw [chunksSlice_eq_chunksStream]; exact alter_length_partial cs rest hfit i hi hno j hj v hv

/-- When the altered length field announces more payload than the bytes that remain (everything from chunk `i`
    on, `rest` included, minus the 12 bytes of framing), the error is `UnexpectedEof`, after exactly the first
    `i` chunks. -/
theorem alter_length_eof (cs : List Chunk) (rest : Bytes) (hfit : ChunksFit cs)
    (i : Nat) (hi : i < cs.length) (hno : ∀ c ∈ cs.take i, c.ty ≠ ChunkType.AEND)
    (j : Nat) (hj : j < 4) (v : UInt8)
    (hbig : (encodeChunks (cs.drop i) ++ rest).length < 12 + fromBe ((be32 (cs[i]).data.length).set j v)) :
    chunksStream ((signature ++ encodeChunks cs ++ rest).set (8 + (encodeChunks (cs.take i)).length + j) v)
      = (cs.take i, .error .eof) ∧
    chunksSlice ((signature ++ encodeChunks cs ++ rest).set (8 + (encodeChunks (cs.take i)).length + j) v)
      = (cs.take i, .error .eof) := by
  have h := chunksStream_set (cs.take i) cs[i] (cs.drop (i + 1)) rest
    (fun c hc => hfit c (List.mem_of_mem_take hc)) hno j v
  -- the altered chunk is short: its first four bytes are the altered length field
  have hd := decodeStream_short (bs := (cs[i].encode ++ (encodeChunks (cs.drop (i + 1)) ++ rest)).set j v) (by
    rw [Chunk.encode_split, List.append_assoc, List.set_append_left _ _ (by simpa using hj),
      List.take_left' (by simp), List.length_append, List.length_set, ← List.length_append, ← List.append_assoc,
      ← Chunk.encode_split, ← List.append_assoc, ← encodeChunks_cons, List.getElem_cons_drop]
    exact hbig)
  rw [← split_at_index cs i hi, chunksStream_error _ _ hd, List.append_nil] at h
  exact ⟨h, by rw [chunksSlice_eq_chunksStream]; exact h⟩

/-- One altered byte in item number `m` (chunk `ci` of it, offset `j ≥ 4` of that chunk): the reader returns exactly
    the first `m` raw items and their parse; it never ends with `ok`; it ends with `InvalidData` unless one of those
    `m` intact items already fails to parse (then that earlier error is what the reader reports). -/
theorem alter_item_detected (n : Nat) (hn : n < 2 ^ 32) (items : List (List Chunk)) (hw : ∀ it ∈ items, ItemWF it)
    (hfit : ChunksFit items.flatten) (next : Bool)
    (m : Nat) (hm : m < items.length) (ci : Nat) (hci : ci < (items[m]).length)
    (j : Nat) (hj4 : 4 ≤ j) (hj : j < ((items[m])[ci]).encode.length) (v : UInt8)
    (hv : v ≠ ((items[m])[ci]).encode[j]) :
    let pos := 8 + 20 + (encodeChunks (items.take m).flatten).length
      + (encodeChunks ((items[m]).take ci)).length + j
    let r := readArchiveStream ((encodeArchive n items next).set pos v)
    r.rawItems = items.take m ∧ r.entries = (parseItems (items.take m)).1 ∧ r.status.isOk = false ∧
      (((parseItems (items.take m)).2 = .ok ()) → r.status = .error .invalidData) := by
  intro pos r
  -- the archive's chunks, cut open before chunk `ci` of item `m`
  have hflat : items.flatten = ((items.take m).flatten ++ (items[m]).take ci)
      ++ (items[m])[ci] :: ((items[m]).drop (ci + 1) ++ (items.drop (m + 1)).flatten) := by
    conv => lhs; rw [flatten_split_at items m hm, split_at_index items[m] ci hci]
    simp only [List.append_assoc, List.cons_append]
  have hsplit : C14L.archiveChunks n items next
      = (⟨ChunkType.AHED, encAHED ⟨0, 0, n⟩⟩ :: ((items.take m).flatten ++ (items[m]).take ci))
        ++ (items[m])[ci] :: ((items[m]).drop (ci + 1) ++ (items.drop (m + 1)).flatten
          ++ (if next then [⟨ChunkType.ANXT, []⟩] else []) ++ [⟨ChunkType.AEND, []⟩]) := by
    rw [C14L.archiveChunks, hflat]
    simp only [List.append_assoc, List.cons_append, List.nil_append]
  have hnm := ItemWF_take_noMarkers (hw _ (List.getElem_mem hm)) ci hci
  exact readArchive_alter_core n hn items next (its := items.take m) (tail := (items[m]).take ci)
    (c := (items[m])[ci]) (post := _) (hsplit := hsplit)
    (hw := fun it hit => hw it (List.mem_of_mem_take hit))
    (hfit := fun c hc => hfit c (hflat ▸ List.mem_append_left _ hc))
    (hnoT := fun c hc => (hnm c hc).2.2.2)
    (hg := by rw [groupItems_noMarkers _ hnm])
    (hc := hfit _ (hflat ▸ List.mem_append_right _ List.mem_cons_self))
    j hj4 hj v hv pos
    (hpos := by simp only [pos, encodeChunks_append, List.length_append]; omega)

/-- One altered byte of the AHED chunk outside its length field (`pos = 8 + j`, `4 ≤ j < 20`, i.e.
    `12 ≤ pos < 28`): nothing is returned, and the error is `InvalidData`. -/
theorem alter_ahed_detected (n : Nat) (items : List (List Chunk)) (next : Bool)
    (j : Nat) (hj4 : 4 ≤ j) (hj : j < (Chunk.mk ChunkType.AHED (encAHED ⟨0, 0, n⟩)).encode.length) (v : UInt8)
    (hv : v ≠ (Chunk.mk ChunkType.AHED (encAHED ⟨0, 0, n⟩)).encode[j]) :
    let r := readArchiveStream ((encodeArchive n items next).set (8 + j) v)
    r.rawItems = [] ∧ r.entries = [] ∧ r.header = none ∧ r.status = .error .invalidData := by
  intro r
  have h := chunksStream_alter_detected_split [] ⟨ChunkType.AHED, encAHED ⟨0, 0, n⟩⟩
    (items.flatten ++ (if next then [⟨ChunkType.ANXT, []⟩] else []) ++ [⟨ChunkType.AEND, []⟩]) []
    (fun c hc => by simp at hc) (fun c hc => by simp at hc) (by simp [encAHED_length]) j hj4 hj v hv
  rw [encodeChunks_nil, List.length_nil, Nat.add_zero, List.nil_append, List.append_nil] at h
  rw [show r = _ from readArchiveWith_nil _ _ _ _ h]
  exact ⟨rfl, rfl, rfl, rfl⟩

theorem AHED_chunk_length (n : Nat) : (Chunk.mk ChunkType.AHED (encAHED ⟨0, 0, n⟩)).encode.length = 20 :=
  AHED_encode_length n

/-- One altered byte of the trailing ANXT chunk outside its length field: all items are returned, the read
    never ends with `ok`, and ends with `InvalidData` when the items parse. -/
theorem alter_anxt_detected (n : Nat) (hn : n < 2 ^ 32) (items : List (List Chunk)) (hw : ∀ it ∈ items, ItemWF it)
    (hfit : ChunksFit items.flatten)
    (j : Nat) (hj4 : 4 ≤ j) (hj : j < (Chunk.mk ChunkType.ANXT []).encode.length) (v : UInt8)
    (hv : v ≠ (Chunk.mk ChunkType.ANXT []).encode[j]) :
    let pos := 8 + 20 + (encodeChunks items.flatten).length + j
    let r := readArchiveStream ((encodeArchive n items true).set pos v)
    r.rawItems = items ∧ r.entries = (parseItems items).1 ∧ r.status.isOk = false ∧
      (((parseItems items).2 = .ok ()) → r.status = .error .invalidData) := by
  intro pos r
  have hsplit : C14L.archiveChunks n items true
      = (⟨ChunkType.AHED, encAHED ⟨0, 0, n⟩⟩ :: (items.flatten ++ []))
        ++ ⟨ChunkType.ANXT, []⟩ :: [⟨ChunkType.AEND, []⟩] := by
    unfold C14L.archiveChunks
    simp
  exact readArchive_alter_core n hn items true items [] ⟨ChunkType.ANXT, []⟩ _ hsplit hw
    (fun c hc => hfit c (by simpa using hc)) (fun c hc => by simp at hc) rfl (by simp)
    j hj4 hj v hv pos (by simp only [pos, List.append_nil])

/-- One altered byte of the final AEND chunk outside its length field: all items are returned, the read never
    ends with `ok`, and ends with `InvalidData` when the items parse. -/
theorem alter_aend_detected (n : Nat) (hn : n < 2 ^ 32) (items : List (List Chunk)) (hw : ∀ it ∈ items, ItemWF it)
    (hfit : ChunksFit items.flatten) (next : Bool)
    (j : Nat) (hj4 : 4 ≤ j) (hj : j < (Chunk.mk ChunkType.AEND []).encode.length) (v : UInt8)
    (hv : v ≠ (Chunk.mk ChunkType.AEND []).encode[j]) :
    let pos := 8 + 20 + (encodeChunks items.flatten).length + (if next then 12 else 0) + j
    let r := readArchiveStream ((encodeArchive n items next).set pos v)
    r.rawItems = items ∧ r.entries = (parseItems items).1 ∧ r.status.isOk = false ∧
      (((parseItems items).2 = .ok ()) → r.status = .error .invalidData) := by
  intro pos r
  have hsplit : C14L.archiveChunks n items next
      = (⟨ChunkType.AHED, encAHED ⟨0, 0, n⟩⟩ :: (items.flatten ++ anxtIf next)) ++ ⟨ChunkType.AEND, []⟩ :: [] := by
    simp [C14L.archiveChunks, anxtIf]
  have hg : (groupItems [] false (anxtIf next)).1 = [] := by
    cases next <;> rfl
  have hlen : (encodeChunks (anxtIf next)).length = if next then 12 else 0 := by
    cases next <;> rfl
  exact readArchive_alter_core n hn items next items (anxtIf next) ⟨ChunkType.AEND, []⟩ _ hsplit hw
    (anxtIf_fit hfit next) (anxtIf_noAEND (body := []) (fun _ h => absurd h List.not_mem_nil) next) hg (by simp)
    j hj4 hj v hv pos (by simp only [pos, encodeChunks_append, List.length_append, hlen]; omega)

/-- Under the hypotheses of `alter_item_detected` the read does not end successfully, and the damaged item is not
    among the returned ones (exactly `m` items come back, all of them intact items that precede it). -/
theorem alter_item_never_ok (n : Nat) (hn : n < 2 ^ 32) (items : List (List Chunk)) (hw : ∀ it ∈ items, ItemWF it)
    (hfit : ChunksFit items.flatten) (next : Bool)
    (m : Nat) (hm : m < items.length) (ci : Nat) (hci : ci < (items[m]).length)
    (j : Nat) (hj4 : 4 ≤ j) (hj : j < ((items[m])[ci]).encode.length) (v : UInt8)
    (hv : v ≠ ((items[m])[ci]).encode[j]) :
    let pos := 8 + 20 + (encodeChunks (items.take m).flatten).length
      + (encodeChunks ((items[m]).take ci)).length + j
    let r := readArchiveStream ((encodeArchive n items next).set pos v)
    r.status ≠ .ok () ∧ r.rawItems.length = m ∧ r.entries.length ≤ m := by
  intro pos r
  obtain ⟨h1, h2, h3, _⟩ := alter_item_detected n hn items hw hfit next m hm ci hci j hj4 hj v hv
  refine ⟨?_, ?_, ?_⟩
  · intro h
    rw [h] at h3
    exact Bool.noConfusion h3
  · rw [h1, List.length_take]; omega
  · rw [h2]
    have h4 := parseItems_length_le (items.take m)
    rw [List.length_take] at h4
    omega

/-- For every position covered by `alter_chunk_detected` the iterators do not end successfully. -/
theorem alter_chunk_never_ok (cs : List Chunk) (rest : Bytes) (hfit : ChunksFit cs)
    (i : Nat) (hi : i < cs.length) (hno : ∀ c ∈ cs.take i, c.ty ≠ ChunkType.AEND)
    (j : Nat) (hj4 : 4 ≤ j) (hj : j < (cs[i]).encode.length)
    (v : UInt8) (hv : v ≠ (cs[i]).encode[j]) :
    (chunksStream ((signature ++ encodeChunks cs ++ rest).set (8 + (encodeChunks (cs.take i)).length + j) v)).2 ≠ .ok () ∧
    (chunksSlice ((signature ++ encodeChunks cs ++ rest).set (8 + (encodeChunks (cs.take i)).length + j) v)).2 ≠ .ok () := by
  rw [alter_chunk_detected_slice cs rest hfit i hi hno j hj4 hj v hv,
    alter_chunk_detected cs rest hfit i hi hno j hj4 hj v hv]
  exact ⟨fun h => (by cases h), fun h => (by cases h)⟩

/-- The slice reader is the same function as the stream reader, so the archive-level theorems above hold for it
    verbatim. -/
theorem readArchiveSlice_eq_stream (bs : Bytes) : readArchiveSlice bs = readArchiveStream bs := by
  unfold readArchiveSlice readArchiveStream readArchiveWith
  rw [chunksSlice_eq_chunksStream]

example : (readArchiveSlice ((signature ++ [1, 2, 3]))).status = .error .eof ∧
    readArchiveSlice (signature ++ [1, 2, 3]) = readArchiveStream (signature ++ [1, 2, 3]) :=
  ⟨by decide +kernel, readArchiveSlice_eq_stream _⟩

/-- two file items, `a` with content `[1,2,3]` and `b` with content `[4,5]` -/
def exItems : List (List Chunk) :=
  [[⟨ChunkType.FHED, [0, 0, 0, 0, 0, 0, 97]⟩, ⟨ChunkType.FDAT, [1, 2, 3]⟩, ⟨ChunkType.FEND, []⟩],
   [⟨ChunkType.FHED, [0, 0, 0, 0, 0, 0, 98]⟩, ⟨ChunkType.FDAT, [4, 5]⟩, ⟨ChunkType.FEND, []⟩]]

/-- the six chunks of the two items -/
def exCs : List Chunk := exItems.flatten

theorem exItems_wf : ∀ it ∈ exItems, ItemWF it := by decide

theorem exItems_fit : ChunksFit exItems.flatten := by decide +kernel

theorem exCs_fit : ChunksFit exCs := exItems_fit

/-- the unaltered archive (131 bytes) reads back completely: both items, both entries, `ok` -/
example :
    (encodeArchive 0 exItems false).length = 131 ∧
    (readArchiveStream (encodeArchive 0 exItems false)).rawItems = exItems ∧
    (readArchiveStream (encodeArchive 0 exItems false)).entries.length = 2 ∧
    (readArchiveStream (encodeArchive 0 exItems false)).status = .ok () ∧
    (parseItems (exItems.take 1)).2 = .ok () := by decide +kernel

/-- `alter_chunk_detected` instantiated: chunk 4 (`FDAT [4,5]`), offset 8 (its first data byte), new value 9, two junk
    bytes after -/
example :
    chunksStream ((signature ++ encodeChunks exCs ++ [7, 7]).set (8 + (encodeChunks (exCs.take 4)).length + 8) 9)
      = (exCs.take 4, .error .invalidData) :=
  alter_chunk_detected exCs [7, 7] exCs_fit 4 (by decide) (by decide) 8 (by decide) (by decide +kernel) 9
    (by decide +kernel)

/-- ... and the same fact by evaluation (position 81 of the 101-byte stream), for both iterators; a CRC byte too -/
example :
    8 + (encodeChunks (exCs.take 4)).length + 8 = 81 ∧ (signature ++ encodeChunks exCs ++ [7, 7]).length = 101 ∧
    chunksStream ((signature ++ encodeChunks exCs ++ [7, 7]).set 81 9) = (exCs.take 4, .error .invalidData) ∧
    chunksSlice ((signature ++ encodeChunks exCs ++ [7, 7]).set 81 9) = (exCs.take 4, .error .invalidData) ∧
    chunksStream ((signature ++ encodeChunks exCs ++ [7, 7]).set 84 0) = (exCs.take 4, .error .invalidData) ∧
    (exCs.take 4).length = 4 := by decide +kernel

example :
    chunksSlice ((signature ++ encodeChunks exCs ++ [7, 7]).set (8 + (encodeChunks (exCs.take 4)).length + 8) 9)
      = (exCs.take 4, .error .invalidData) :=
  alter_chunk_detected_slice exCs [7, 7] exCs_fit 4 (by decide) (by decide) 8 (by decide) (by decide +kernel) 9
    (by decide +kernel)

/-- `alter_length_partial` instantiated: chunk 5 (`FEND`), offset 2 of its length field, new value 9 -/
example :
    ∃ more st, chunksStream ((signature ++ encodeChunks exCs ++ [7, 7]).set
        (8 + (encodeChunks (exCs.take 5)).length + 2) 9) = (exCs.take 5 ++ more, st) ∧
      (∀ c, more.head? = some c → c ≠ exCs[5]) :=
  alter_length_partial exCs [7, 7] exCs_fit 5 (by decide) (by decide) 2 (by decide) 9 (by decide +kernel)

example :
    ∃ more st, chunksSlice ((signature ++ encodeChunks exCs ++ [7, 7]).set
        (8 + (encodeChunks (exCs.take 5)).length + 2) 9) = (exCs.take 5 ++ more, st) ∧
      (∀ c, more.head? = some c → c ≠ exCs[5]) :=
  alter_length_partial_slice exCs [7, 7] exCs_fit 5 (by decide) (by decide) 2 (by decide) 9 (by decide +kernel)

/-- the new length (9 * 256) exceeds what remains: `UnexpectedEof` after the five intact chunks -/
example :
    chunksStream ((signature ++ encodeChunks exCs ++ [7, 7]).set (8 + (encodeChunks (exCs.take 5)).length + 2) 9)
      = (exCs.take 5, .error .eof) :=
  (alter_length_eof exCs [7, 7] exCs_fit 5 (by decide) (by decide) 2 (by decide) 9 (by decide +kernel)).1

example :
    chunksStream ((signature ++ encodeChunks exCs ++ [7, 7]).set 89 9) = (exCs.take 5, .error .eof) ∧
    8 + (encodeChunks (exCs.take 5)).length + 2 = 89 := by decide +kernel

/-- `alter_item_detected` instantiated: item 1, its chunk 1 (`FDAT [4,5]`), offset 8 (first data byte), new value 9 -/
example :
    let pos := 8 + 20 + (encodeChunks (exItems.take 1).flatten).length
      + (encodeChunks ((exItems[1]).take 1)).length + 8
    let r := readArchiveStream ((encodeArchive 0 exItems false).set pos 9)
    r.rawItems = exItems.take 1 ∧ r.entries = (parseItems (exItems.take 1)).1 ∧ r.status.isOk = false ∧
      (((parseItems (exItems.take 1)).2 = .ok ()) → r.status = .error .invalidData) :=
  alter_item_detected 0 (by decide) exItems exItems_wf exItems_fit false 1 (by decide) 1 (by decide) 8 (by decide)
    (by decide +kernel) 9 (by decide +kernel)

/-- ... and by evaluation: byte 101 of the archive is the data byte `4`; with 9 there, the reader returns item `a`
    (one entry, content `[1,2,3]`) and then `InvalidData`; item `b` is not returned -/
example :
    8 + 20 + (encodeChunks (exItems.take 1).flatten).length + (encodeChunks ((exItems[1]).take 1)).length + 8 = 101 ∧
    (encodeArchive 0 exItems false)[101]? = some 4 ∧
    (readArchiveStream ((encodeArchive 0 exItems false).set 101 9)).rawItems = exItems.take 1 ∧
    (readArchiveStream ((encodeArchive 0 exItems false).set 101 9)).entries.length = 1 ∧
    (readArchiveStream ((encodeArchive 0 exItems false).set 101 9)).status = .error .invalidData := by
  decide +kernel

/-- `alter_item_never_ok`, `alter_chunk_never_ok` instantiated -/
example :
    let pos := 8 + 20 + (encodeChunks (exItems.take 1).flatten).length
      + (encodeChunks ((exItems[1]).take 1)).length + 8
    let r := readArchiveStream ((encodeArchive 0 exItems false).set pos 9)
    r.status ≠ .ok () ∧ r.rawItems.length = 1 ∧ r.entries.length ≤ 1 :=
  alter_item_never_ok 0 (by decide) exItems exItems_wf exItems_fit false 1 (by decide) 1 (by decide) 8 (by decide)
    (by decide +kernel) 9 (by decide +kernel)

example :
    (chunksStream ((signature ++ encodeChunks exCs ++ [7, 7]).set (8 + (encodeChunks (exCs.take 4)).length + 8) 9)).2
      ≠ .ok () :=
  (alter_chunk_never_ok exCs [7, 7] exCs_fit 4 (by decide) (by decide) 8 (by decide) (by decide +kernel) 9
    (by decide +kernel)).1

/-- `alter_ahed_detected` instantiated: byte 20 (`pos = 8 + 12`, first byte of the part number) of the AHED chunk -/
example :
    let r := readArchiveStream ((encodeArchive 0 exItems false).set (8 + 12) 1)
    r.rawItems = [] ∧ r.entries = [] ∧ r.header = none ∧ r.status = .error .invalidData :=
  alter_ahed_detected 0 exItems false 12 (by decide) (by decide +kernel) 1 (by decide +kernel)

example :
    (readArchiveStream ((encodeArchive 0 exItems false).set 20 1)).entries = [] ∧
    (readArchiveStream ((encodeArchive 0 exItems false).set 20 1)).status = .error .invalidData := by
  decide +kernel

/-- `alter_anxt_detected`, `alter_aend_detected` instantiated: the `N` of ANXT, and the first CRC byte of AEND (archive
    with continuation flag) -/
example :
    let pos := 8 + 20 + (encodeChunks exItems.flatten).length + 5
    let r := readArchiveStream ((encodeArchive 0 exItems true).set pos 0)
    r.rawItems = exItems ∧ r.entries = (parseItems exItems).1 ∧ r.status.isOk = false ∧
      (((parseItems exItems).2 = .ok ()) → r.status = .error .invalidData) :=
  alter_anxt_detected 0 (by decide) exItems exItems_wf exItems_fit 5 (by decide) (by decide +kernel) 0
    (by decide +kernel)

example :
    let pos := 8 + 20 + (encodeChunks exItems.flatten).length + (if true then 12 else 0) + 8
    let r := readArchiveStream ((encodeArchive 0 exItems true).set pos 0)
    r.rawItems = exItems ∧ r.entries = (parseItems exItems).1 ∧ r.status.isOk = false ∧
      (((parseItems exItems).2 = .ok ()) → r.status = .error .invalidData) :=
  alter_aend_detected 0 (by decide) exItems exItems_wf exItems_fit true 8 (by decide) (by decide +kernel) 0
    (by decide +kernel)

example :
    8 + 20 + (encodeChunks exItems.flatten).length + 12 + 8 = 139 ∧
    (readArchiveStream ((encodeArchive 0 exItems true).set 139 0)).rawItems = exItems ∧
    (readArchiveStream ((encodeArchive 0 exItems true).set 139 0)).entries.length = 2 ∧
    (readArchiveStream ((encodeArchive 0 exItems true).set 139 0)).status = .error .invalidData ∧
    (readArchiveStream ((encodeArchive 0 exItems true).set 124 0)).rawItems = exItems ∧
    (readArchiveStream ((encodeArchive 0 exItems true).set 124 0)).status = .error .invalidData ∧
    (parseItems exItems).2 = .ok () := by decide +kernel

/-- Why `status = InvalidData` carries the premise "the returned items parse": an intact item that fails to parse
    is reported first.  Here the only item has format version 1 (`Unsupported`); altering a CRC byte of AEND
    (covered by `alter_aend_detected`) still gives `Unsupported`, not `InvalidData`.  (Still never `ok`.) -/
def exUnsupported : List (List Chunk) := [[⟨ChunkType.FHED, [1, 0, 0, 0, 0, 0, 97]⟩, ⟨ChunkType.FEND, []⟩]]

example :
    8 + 20 + (encodeChunks exUnsupported.flatten).length + 0 + 8 = 67 ∧
    (encodeArchive 0 exUnsupported false)[67]? ≠ some 0 ∧
    ¬ ((readArchiveStream ((encodeArchive 0 exUnsupported false).set 67 0)).status = .error .invalidData) ∧
    (readArchiveStream ((encodeArchive 0 exUnsupported false).set 67 0)).status = .error .unsupported ∧
    (readArchiveStream ((encodeArchive 0 exUnsupported false).set 67 0)).rawItems = exUnsupported := by
  decide +kernel

/-- Why the length-field case is only partial: a payload can embed a CRC-consistent frame.  The FDAT payload below
    is `[1] ++ crc(FDAT,[1]) ++ encode FEND ++ encode AEND` (29 bytes).  Changing the low byte of its length field
    from 29 to 1 (ONE altered byte, position 50) makes the reader see `FDAT [1]`, `FEND`, `AEND`: it ends with `ok`
    and returns one entry whose content differs from the written one.  `alter_length_partial` holds here (the chunk
    read at that place is not the original chunk), but "an error is reported" does not. -/
def exEmbedded : List (List Chunk) :=
  [[⟨ChunkType.FHED, [0, 0, 0, 0, 0, 0, 97]⟩,
    ⟨ChunkType.FDAT, [1] ++ be32 (Chunk.mk ChunkType.FDAT [1]).crc ++ (Chunk.mk ChunkType.FEND []).encode
        ++ (Chunk.mk ChunkType.AEND []).encode⟩,
    ⟨ChunkType.FEND, []⟩]]

theorem length_alteration_can_go_undetected :
    (∀ it ∈ exEmbedded, ItemWF it) ∧ ChunksFit exEmbedded.flatten ∧
    (encodeArchive 0 exEmbedded false)[50]? = some 29 ∧
    (readArchiveStream (encodeArchive 0 exEmbedded false)).status = .ok () ∧
    (readArchiveStream ((encodeArchive 0 exEmbedded false).set 50 1)).status = .ok () ∧
    (readArchiveStream ((encodeArchive 0 exEmbedded false).set 50 1)).entries.length = 1 ∧
    (readArchiveStream ((encodeArchive 0 exEmbedded false).set 50 1)).entries
      ≠ (readArchiveStream (encodeArchive 0 exEmbedded false)).entries ∧
    (readArchiveStream ((encodeArchive 0 exEmbedded false).set 50 1)).rawItems
      = [[⟨ChunkType.FHED, [0, 0, 0, 0, 0, 0, 97]⟩, ⟨ChunkType.FDAT, [1]⟩, ⟨ChunkType.FEND, []⟩]] := by
  exact ⟨by decide +kernel, by decide +kernel, by decide +kernel⟩

end Pna.C05A
