import PnaVerif.Model.Cli.ModeText
import PnaVerif.Lemmas.CliEdit
/-!
# C10 (chmod, text level) — the mode argument means what it says, and applying it twice changes nothing

`parseMode` transcribes `Mode::from_str`; the `cli-codec` family compares `parse ∘ apply` of the real
parser with this model on generated and hostile mode strings.
* `parse_clause` — every symbolic clause `[ugoa]*[+-=][rwx]*` parses to the clause it spells: the
  union of the named classes (all three when none is named) and the union of the permission letters;
* `parse_num` — every three-digit octal string parses to its value (for all digits, from the eight digit cases `octDigit`);
* `parsed_mode_idempotent` — for every accepted mode string and every mode value, `chmod` twice =
  `chmod` once; the hypothesis is not used, this is `C10.chmod_apply_idem` (every `Mode` is `BitAffine`).
-/
namespace Pna.C10M
open Pna Pna.Cli

def whoBits : List Char → Nat
  | [] => 0
  | c :: cs => (if c = 'u' then 1 else if c = 'g' then 2 else if c = 'o' then 4 else 7) ||| whoBits cs

def permBits : List Char → Nat
  | [] => 0
  | c :: cs => (if c = 'x' then 1 else if c = 'w' then 2 else 4) ||| permBits cs

theorem parsePermLetters_ok (ps : List Char) (h : ∀ c ∈ ps, c = 'r' ∨ c = 'w' ∨ c = 'x') :
    parsePermLetters ps = some (permBits ps) := by
  induction ps with
  | nil => rfl
  | cons c cs ih =>
    have hc := h c (List.mem_cons_self ..)
    have ih' := ih (fun d hd => h d (List.mem_cons_of_mem _ hd))
    rcases hc with rfl | rfl | rfl <;> simp [parsePermLetters, permBits, ih']

theorem parseModeGo_who (who : List Char) (hw : ∀ c ∈ who, c = 'u' ∨ c = 'g' ∨ c = 'o' ∨ c = 'a')
    (idx t : Nat) (rest : List Char) :
    parseModeGo idx t (who ++ rest) = parseModeGo (idx + who.length) (t ||| whoBits who) rest := by
  induction who generalizing idx t with
  | nil => simp [whoBits]
  | cons c cs ih =>
    have hc := hw c (List.mem_cons_self ..)
    have ih' := ih (fun d hd => hw d (List.mem_cons_of_mem _ hd))
    rcases hc with rfl | rfl | rfl | rfl <;>
      simp [parseModeGo, whoBits, ih', Nat.add_assoc, Nat.add_comm 1, Nat.or_assoc]

theorem parse_clause (who perms : List Char) (op : Char)
    (hw : ∀ c ∈ who, c = 'u' ∨ c = 'g' ∨ c = 'o' ∨ c = 'a')
    (hop : op = '+' ∨ op = '-' ∨ op = '=')
    (hp : ∀ c ∈ perms, c = 'r' ∨ c = 'w' ∨ c = 'x') :
    parseMode (who ++ op :: perms) = mkClause op (if who = [] then 7 else whoBits who) (permBits perms) := by
  have hne : who ++ op :: perms ≠ [] := by simp
  have hnd : (who ++ op :: perms).all isAsciiDigit = false := by
    rw [List.all_eq_false]
    refine ⟨op, by simp, ?_⟩
    rcases hop with rfl | rfl | rfl <;> decide
  unfold parseMode
  rw [if_neg hne, hnd]
  simp only [Bool.false_eq_true, ↓reduceIte]
  rw [parseModeGo_who who hw 0 0 (op :: perms)]
  have hpp := parsePermLetters_ok perms hp
  have hstep : ∀ idx t, parseModeGo idx t (op :: perms) = mkClause op (if idx = 0 then 7 else t) (permBits perms) := by
    intro idx t
    rcases hop with rfl | rfl | rfl <;> simp [parseModeGo, hpp]
  rw [hstep]
  cases who with
  | nil => simp
  | cons c cs => simp [whoBits]

theorem octDigit : ∀ a : Fin 8,
    isAsciiDigit (Char.ofNat (48 + a.val)) = true ∧ (Char.ofNat (48 + a.val)).toNat - 48 = a.val := by
  decide

theorem parse_num : ∀ a b c : Fin 8,
    parseMode [Char.ofNat (48 + a.val), Char.ofNat (48 + b.val), Char.ofNat (48 + c.val)] = some (.num (a.val * 64 + b.val * 8 + c.val)) := by
  intro a b c
  obtain ⟨da, va⟩ := octDigit a
  obtain ⟨db, vb⟩ := octDigit b
  obtain ⟨dc, vc⟩ := octDigit c
  simp [parseMode, parseOctal3, da, db, dc, va, vb, vc, a.isLt, b.isLt, c.isLt]

theorem parsed_mode_idempotent (s : List Char) (m : Mode) (_h : parseMode s = some m) (x : Nat) :
    m.applyTo (m.applyTo x) = m.applyTo x := (bitAffine_applyTo m).idem x

example : parseMode "u+x".toList = some (.plus 1 1) := by decide
example : parseMode "go-rw".toList = some (.minus 6 6) := by decide
example : parseMode "=r".toList = some (.equal 7 4) := by decide
example : parseMode "a=rwx".toList = some (.equal 7 7) := by decide
example : parseMode "755".toList = some (.num 493) := by decide
example : parseMode "888".toList = none := by decide
example : parseMode "0755".toList = none := by decide
example : parseMode "u+rq".toList = none := by decide
example : parseMode "ug".toList = none := by decide
example : (Mode.plus 1 1).applyTo 0o644 = 0o744 := by decide

end Pna.C10M
