import PnaVerif.Lemmas.ExtractPerm
import PnaVerif.Props.C09Confined
/-!
# C09 / C20 — the permission step of `pna extract --keep-permission`

`extract_entry` creates the object for an entry and THEN (with `--keep-permission`) runs `chown` and
`set_permissions` on the destination path; both follow a symbolic link at the final component.
`Model/Cli/ExtractPerm.lean` records WHAT that step touches (`PermTarget`): nothing, a directory
(by path) or a regular file (by inode).

* `perm_target_inside` (C09): after a successful entry the step never reaches an object outside the
  output directory — same hypotheses as `C09C.extractEntry_confined_partial`.
* `perm_target_fresh_partial` (C20): without `--overwrite` the step only touches what this entry
  created.  Two hypotheses are needed and shown to be needed by kernel-checked witnesses: the name has
  no `..` component (`fresh_false_for_dotdot_dir`, `fresh_false_for_dotdot_file`), and the kind is one of
  the four data kinds 0–3 (`fresh_false_for_kind4`: the model's `extractEntry` treats every other number
  as a hard link while `permStep` only skips 2 and 3 — an artefact of `kind : Nat`).
* the two repaired defects as witnesses against the *legacy* step (`legacy_perm_…`).
* `perm_link_entries_skipped`: the statement of the repair.
-/
namespace Pna.C09P
open Pna Pna.Fs Pna.Cli Pna.Confined Pna.ExtractPerm Pna.C09Fs

/-! ### concrete sandboxes (on top of `C09Fs.fs0`: /s/out empty, /s/outside/sec = inode 1) -/

def lnk : Bytes := [108]                                       -- "l"
def toSecret : Bytes := [46, 46, 47] ++ outside ++ [47] ++ secret   -- "../outside/sec"
def victim : Bytes := [118, 105, 99, 116, 105, 109, 46, 116, 120, 116]   -- "victim.txt"
def aliasN : Bytes := [97, 108, 105, 97, 115, 46, 116, 120, 116]          -- "alias.txt"

/-- `fs0` after extracting the symbolic link entry `l -> ../outside/sec` -/
def fsL : Fs := (extractEntry false [s] out fs0 ⟨lnk, 2, toSecret⟩).1

/-- /s/out/victim.txt (inode 1) is there before the command; next free inode 2 -/
def fsV : Fs := ⟨[([s], .dir), ([s, out], .dir), ([s, out, victim], .file 1), ([s, outside], .dir)], [(1, [1, 2, 3])], 2⟩

/-- /s/out/b is a directory before the command -/
def fsB : Fs := ⟨[([s], .dir), ([s, out], .dir), ([s, out, [98]], .dir)], [], 2⟩

/-- /s/out/b is a regular file (inode 1) before the command -/
def fsF : Fs := ⟨[([s], .dir), ([s, out], .dir), ([s, out, [98]], .file 1)], [(1, [5])], 2⟩

theorem fsL_sane : Sane fsL [s, out] := sane_of_saneB (by decide +kernel)
theorem fsV_sane : Sane fsV [s, out] := sane_of_saneB (by decide +kernel)
theorem fsB_sane : Sane fsB [s, out] := sane_of_saneB (by decide +kernel)
theorem fsF_sane : Sane fsF [s, out] := sane_of_saneB (by decide +kernel)

/-- a run whose error component is `none`, in the shape the theorems take -/
theorem packP (x : Fs × Option XErr × PermTarget) {t : PermTarget} (h : x.2 = (none, t)) : x = (x.1, none, t) := by
  rw [← h]

/-- **(1) C09** — the permission step never reaches an object outside the output directory:
    the target is nothing, a directory at or below `O`, or a regular file whose inode no directory
    entry outside `O` refers to (in the resulting file system). Any kind, any `--overwrite` flag. -/
theorem perm_target_inside (keepPerm ow : Bool) (cwd : Path) (outDir d : Bytes) (fs fs2 : Fs) (e : XEntry)
    (t : PermTarget)
    (hcomps : comps outDir = [d]) (hd : d ≠ [dot, dot]) (hrel : ¬ isAbs outDir = true)
    (h : Sane fs (cwd ++ [d])) (hn : NameOkW ow e.name)
    (hx : extractEntryP keepPerm ow cwd outDir fs e = (fs2, none, t)) :
    t = .none ∨ (∃ p, t = .dir p ∧ Inside (cwd ++ [d]) p) ∨
    (∃ ino, t = .file ino ∧ ∀ b ∈ fs2.nodes, ¬ Inside (cwd ++ [d]) b.1 → b.2 ≠ .file ino) := by
  have ho : OutDir outDir d := ⟨hcomps, hd, by simpa using hrel⟩
  obtain ⟨hE, rfl⟩ := extractEntryP_ok hx
  have hnk := nameOk_of_ok ho h hn hE
  have s2 : Sane fs2 (cwd ++ [d]) := by
    have := (extractEntry_good ow cwd outDir d fs e ho h hnk).1.1
    rw [hE] at this; exact this
  rcases permStep_lex (kp := keepPerm) ho h hnk hE with h1 | ⟨_, ⟨h1, _⟩ | ⟨i, h1, h2⟩⟩
  · exact Or.inl h1
  · exact Or.inr (Or.inl ⟨_, h1, below_inside _ _⟩)
  · refine Or.inr (Or.inr ⟨i, h1, fun b hb hob hbi => ?_⟩)
    have hm := lookup_mem (lookup_file_ne_nil h2) h2
    exact s2.sep _ hm b hb i rfl hbi (below_inside _ _) hob

/-- non-vacuity of `perm_target_inside`: on the sane sandbox `fs0`, a regular-file entry `d/a` and a
    directory entry `a/b` with `--keep-permission` succeed and the step is NOT skipped: it reaches the
    new inode 2, resp. the new directory /s/out/a/b (inside) -/
example :
    NameOkW false [100, 47, 97] ∧ NameOkW false [97, 47, 98] ∧
    (extractEntryP true false [s] out fs0 ⟨[100, 47, 97], 0, [7]⟩).2 = (none, .file 2) ∧
    (extractEntryP true false [s] out fs0 ⟨[97, 47, 98], 1, []⟩).2 = (none, .dir [s, out, [97], [98]]) ∧
    Inside [s, out] [s, out, [97], [98]] := by
  decide +kernel

/-- … the theorem applied to the first run (all hypotheses instantiated; conclusion in the `.file` case) -/
example : ∀ b ∈ (extractEntryP true false [s] out fs0 ⟨[100, 47, 97], 0, [7]⟩).1.nodes,
    ¬ Inside [s, out] b.1 → b.2 ≠ .file 2 := by
  have hx := packP (extractEntryP true false [s] out fs0 ⟨[100, 47, 97], 0, [7]⟩) (t := .file 2) (by decide +kernel)
  rcases perm_target_inside true false [s] out out fs0 _ _ _ (by decide) (by decide) (by decide)
    C09C.fs0_sane (by decide) hx with h | ⟨p, h, _⟩ | ⟨i, h, h2⟩
  · cases h
  · cases h
  · cases h; exact h2

/-- non-vacuity with `--overwrite`: in the sane state `fsL` (link `l -> ../outside/sec` present) a
    regular-file entry `l` replaces the link; the step reaches the new inode 2, not the outside inode 1 -/
example :
    NameOkW true lnk ∧ fsL.lookup [s, out, lnk] = some (.link toSecret) ∧
    (extractEntryP true true [s] out fsL ⟨lnk, 0, [9]⟩).2 = (none, .file 2) ∧
    (extractEntryP true true [s] out fsL ⟨lnk, 0, [9]⟩).1.lookup [s, outside, secret] = some (.file 1) := by
  decide +kernel

/-- … and, the outside directory entries being unchanged (`extractEntry_confined_partial`), no directory
    entry outside `O` of the ORIGINAL file system refers to that inode either -/
theorem perm_target_inside_orig (keepPerm ow : Bool) (cwd : Path) (outDir d : Bytes) (fs fs2 : Fs) (e : XEntry)
    (ino : Nat)
    (hcomps : comps outDir = [d]) (hd : d ≠ [dot, dot]) (hrel : ¬ isAbs outDir = true)
    (h : Sane fs (cwd ++ [d])) (hn : NameOkW ow e.name)
    (hx : extractEntryP keepPerm ow cwd outDir fs e = (fs2, none, .file ino)) :
    ∀ b ∈ fs.nodes, ¬ Inside (cwd ++ [d]) b.1 → b.2 ≠ .file ino := by
  intro b hb hob
  have hsame := (C09C.extractEntry_confined_partial ow cwd outDir d fs e hcomps hd hrel h hn).2
  rw [(extractEntryP_ok hx).1] at hsame
  have hb2 : b ∈ fs2.nodes := (outside_mem_iff hsame.nodes b hob).2 hb
  rcases perm_target_inside keepPerm ow cwd outDir d fs fs2 e _ hcomps hd hrel h hn hx with h1 | ⟨p, h1, _⟩ | ⟨i, h1, h2⟩
  · cases h1
  · cases h1
  · cases h1; exact h2 b hb2 hob

/-- non-vacuity of `perm_target_inside_orig`: the run above, with `--overwrite`, on `fsL` -/
example : ∀ b ∈ fsL.nodes, ¬ Inside [s, out] b.1 → b.2 ≠ .file 2 := by
  have hx := packP (extractEntryP true true [s] out fsL ⟨lnk, 0, [9]⟩) (t := .file 2) (by decide +kernel)
  exact perm_target_inside_orig true true [s] out out fsL _ _ _ (by decide) (by decide) (by decide)
    fsL_sane (by decide) hx

/-- **(2) C20** — without `--overwrite` the permission step only touches what this entry created:
    nothing, a regular file whose inode was allocated by this entry (no directory entry of the original
    file system refers to it), or a directory at a path where nothing was before.
    Hypotheses beyond `Sane`: the name has no `..` component (`NameOkW false`), the kind is 0–3. -/
theorem perm_target_fresh_partial (keepPerm : Bool) (cwd : Path) (outDir d : Bytes) (fs fs2 : Fs) (e : XEntry)
    (t : PermTarget)
    (hcomps : comps outDir = [d]) (hd : d ≠ [dot, dot]) (hrel : ¬ isAbs outDir = true)
    (h : Sane fs (cwd ++ [d])) (hn : NameOkW false e.name) (hk : e.kind ≤ 3)
    (hx : extractEntryP keepPerm false cwd outDir fs e = (fs2, none, t)) :
    t = .none ∨
    (∃ ino, t = .file ino ∧ fs.nextIno ≤ ino ∧ ∀ n ∈ fs.nodes, n.2 ≠ .file ino) ∨
    (∃ p, t = .dir p ∧ fs.lookup p = none) := by
  have ho : OutDir outDir d := ⟨hcomps, hd, by simpa using hrel⟩
  obtain ⟨hE, rfl⟩ := extractEntryP_ok hx
  have hnk := nameOk_of_ok ho h hn hE
  have hfree := dest_absent ho h hnk hE
  rcases permStep_lex (kp := keepPerm) ho h hnk hE with h1 | ⟨⟨hk2, hk3⟩, ⟨h1, _⟩ | ⟨i, h1, h2⟩⟩
  · exact Or.inl h1
  · exact Or.inr (Or.inr ⟨_, h1, hfree⟩)
  · have h01 : e.kind = 0 ∨ e.kind = 1 := by omega
    have hext := extractEntry_grows01 cwd outDir fs e h01
    rw [hE] at hext
    have hj := (hext.files _ i h2).resolve_left (by rw [hfree]; simp)
    exact Or.inr (Or.inl ⟨i, h1, hj, fun n hn hni => by have := h.fresh n hn i hni; omega⟩)

/-- non-vacuity of `perm_target_fresh_partial`: the two runs on `fs0` (kinds 0 and 1, acceptable names,
    no `--overwrite`) succeed with a target that is not `.none`; inode 2 = `fs0.nextIno` is new and
    nothing was at /s/out/a/b -/
example :
    NameOkW false [100, 47, 97] ∧ NameOkW false [97, 47, 98] ∧
    (extractEntryP true false [s] out fs0 ⟨[100, 47, 97], 0, [7]⟩).2 = (none, .file 2) ∧
    (extractEntryP true false [s] out fs0 ⟨[97, 47, 98], 1, []⟩).2 = (none, .dir [s, out, [97], [98]]) ∧
    fs0.nextIno = 2 ∧ fs0.lookup [s, out, [97], [98]] = none := by
  decide +kernel

/-- … the theorem applied to the second run (conclusion in the `.dir` case) -/
example : fs0.lookup [s, out, [97], [98]] = none := by
  have hx := packP (extractEntryP true false [s] out fs0 ⟨[97, 47, 98], 1, []⟩) (t := .dir [s, out, [97], [98]])
    (by decide +kernel)
  rcases perm_target_fresh_partial true [s] out out fs0 _ _ _ (by decide) (by decide) (by decide)
    C09C.fs0_sane (by decide) (by decide) hx with h | ⟨i, h, _⟩ | ⟨p, h, h2⟩
  · cases h
  · cases h
  · cases h; exact h2

/-- for `--overwrite = false` the hypothesis on names is exactly "no `..` component" -/
example (name : Bytes) : NameOkW false name ↔ [dot, dot] ∉ comps name :=
  ⟨fun h => h.1, fun h => ⟨h, Or.inr rfl⟩⟩

/-- the conclusion of (2), as a predicate on the original file system and the target -/
def FreshTarget (fs : Fs) (t : PermTarget) : Prop :=
  t = .none ∨ (∃ ino, t = .file ino ∧ fs.nextIno ≤ ino ∧ ∀ n ∈ fs.nodes, n.2 ≠ .file ino) ∨
  (∃ p, t = .dir p ∧ fs.lookup p = none)

def dotdotB : Bytes := [97, 47, 46, 46, 47, 98]      -- "a/../b"

/-- directory entry `a/../b`, /s/out/b being a directory already (no `--overwrite`): `exists()` on
    `out/a/../b` fails with ENOENT on `a`, `create_dir_all` makes `a` and accepts the existing `b`;
    the step then changes the mode of the PRE-EXISTING directory /s/out/b -/
theorem fresh_false_for_dotdot_dir :
    (extractEntryP true false [s] out fsB ⟨dotdotB, 1, []⟩).2 = (none, .dir [s, out, [98]]) ∧
    fsB.lookup [s, out, [98]] = some .dir ∧ ¬ NameOkW false dotdotB := by
  decide +kernel

/-- regular-file entry `a/../b`, /s/out/b being a file already: the pre-existing inode 1 is rewritten
    (the known window of C20 for names with `..`) and then reached by the step -/
theorem fresh_false_for_dotdot_file :
    (extractEntryP true false [s] out fsF ⟨dotdotB, 0, [9]⟩).2 = (none, .file 1) ∧
    fsF.lookup [s, out, [98]] = some (.file 1) ∧ 1 < fsF.nextIno := by
  decide +kernel

/-- an entry with `kind = 4`: `extractEntry` treats it as a hard link, `permStep` does not skip it —
    the step reaches the pre-existing inode 1 through the new name (artefact of `kind : Nat`; the
    format has the four data kinds 0–3 only) -/
theorem fresh_false_for_kind4 :
    (extractEntryP true false [s] out fsV ⟨aliasN, 4, victim⟩).2 = (none, .file 1) ∧
    fsV.lookup [s, out, victim] = some (.file 1) ∧ 1 < fsV.nextIno ∧ NameOkW false aliasN := by
  decide +kernel

/-- Hence (2) without the hypothesis on names is false of the model (sane file system, kind ≤ 3). -/
theorem perm_target_fresh_without_name_hyp_is_false :
    ¬ (∀ (fs fs2 : Fs) (e : XEntry) (t : PermTarget), Sane fs [s, out] → e.kind ≤ 3 →
        extractEntryP true false [s] out fs e = (fs2, none, t) → FreshTarget fs t) := by
  intro h
  rcases h fsB _ _ _ fsB_sane (by decide) (packP _ fresh_false_for_dotdot_dir.1) with h1 | ⟨i, h1, _⟩ | ⟨p, h1, h2⟩
  · cases h1
  · cases h1
  · cases h1; rw [fresh_false_for_dotdot_dir.2.1] at h2; cases h2

/-- … and so is (2) without the hypothesis on the kind (sane file system, acceptable name). -/
theorem perm_target_fresh_without_kind_hyp_is_false :
    ¬ (∀ (fs fs2 : Fs) (e : XEntry) (t : PermTarget), Sane fs [s, out] → NameOkW false e.name →
        extractEntryP true false [s] out fs e = (fs2, none, t) → FreshTarget fs t) := by
  intro h
  rcases h fsV _ _ _ fsV_sane (by decide) (packP _ fresh_false_for_kind4.1) with h1 | ⟨i, h1, h2, _⟩ | ⟨p, h1, _⟩
  · cases h1
  · cases h1; revert h2; decide
  · cases h1

/-- `FreshTarget` is literally the conclusion of `perm_target_fresh_partial` -/
example (keepPerm : Bool) (cwd : Path) (outDir d : Bytes) (fs fs2 : Fs) (e : XEntry)
    (t : PermTarget)
    (hcomps : comps outDir = [d]) (hd : d ≠ [dot, dot]) (hrel : ¬ isAbs outDir = true)
    (h : Sane fs (cwd ++ [d])) (hn : NameOkW false e.name) (hk : e.kind ≤ 3)
    (hx : extractEntryP keepPerm false cwd outDir fs e = (fs2, none, t)) : FreshTarget fs t :=
  perm_target_fresh_partial keepPerm cwd outDir d fs fs2 e t hcomps hd hrel h hn hk hx

/-- **(3a)** entries `l -> ../outside/sec` (symbolic link) and `h -> l` (hard link), `--keep-permission`:
    `h` becomes a second name of the link; the legacy step (skipped for symbolic-link entries only)
    follows it and reaches inode 1 = /s/outside/sec, OUTSIDE the output directory.
    The current step returns `.none`. -/
theorem legacy_perm_hardlink_of_symlink_reaches_outside :
    let e : XEntry := ⟨[104], 3, lnk⟩
    (extractEntryP true false [s] out fs0 ⟨lnk, 2, toSecret⟩).2 = (none, .none) ∧
    fsL = (extractEntryP true false [s] out fs0 ⟨lnk, 2, toSecret⟩).1 ∧
    (extractEntryPLegacy true false [s] out fsL e).2 = (none, .file 1) ∧
    (extractEntryPLegacy true false [s] out fsL e).1.lookup [s, out, [104]] = some (.link toSecret) ∧
    fs0.lookup [s, outside, secret] = some (.file 1) ∧ ¬ Inside [s, out] [s, outside, secret] ∧
    (extractEntryP true false [s] out fsL e).2 = (none, .none) :=
  ⟨by decide +kernel, rfl, by decide +kernel⟩

/-- the legacy step therefore violated the conclusion of `perm_target_inside` (sane file system,
    acceptable name): inode 1 is referenced by the outside entry /s/outside/sec -/
theorem legacy_perm_target_inside_is_false :
    ¬ (∀ (fs fs2 : Fs) (e : XEntry) (t : PermTarget), Sane fs [s, out] → NameOkW false e.name →
        extractEntryPLegacy true false [s] out fs e = (fs2, none, t) →
        t = .none ∨ (∃ p, t = .dir p ∧ Inside [s, out] p) ∨
        (∃ ino, t = .file ino ∧ ∀ b ∈ fs2.nodes, ¬ Inside [s, out] b.1 → b.2 ≠ .file ino)) := by
  intro h
  rcases h fsL _ _ _ fsL_sane (by decide)
    (packP _ legacy_perm_hardlink_of_symlink_reaches_outside.2.2.1) with h1 | ⟨p, h1, _⟩ | ⟨i, h1, h2⟩
  · cases h1
  · cases h1
  · cases h1
    exact h2 ([s, outside, secret], .file 1) (by decide +kernel) (by decide +kernel) rfl

/-- **(3b)** /s/out/victim.txt (inode 1) is there before the command; entry `alias.txt -> victim.txt`
    (hard link), `--keep-permission`, no `--overwrite`: the legacy step reaches inode 1 < `nextIno`, a
    PRE-EXISTING object, through the new name.  The current step returns `.none`. -/
theorem legacy_perm_hardlink_reaches_preexisting :
    let e : XEntry := ⟨aliasN, 3, victim⟩
    fsV.lookup [s, out, victim] = some (.file 1) ∧ 1 < fsV.nextIno ∧
    (extractEntryPLegacy true false [s] out fsV e).2 = (none, .file 1) ∧
    (extractEntryPLegacy true false [s] out fsV e).1.lookup [s, out, aliasN] = some (.file 1) ∧
    (extractEntryP true false [s] out fsV e).2 = (none, .none) := by
  decide +kernel

/-- the legacy step therefore violated the conclusion of `perm_target_fresh_partial` -/
theorem legacy_perm_target_fresh_is_false :
    ¬ (∀ (fs fs2 : Fs) (e : XEntry) (t : PermTarget), Sane fs [s, out] → NameOkW false e.name → e.kind ≤ 3 →
        extractEntryPLegacy true false [s] out fs e = (fs2, none, t) → FreshTarget fs t) := by
  intro h
  rcases h fsV _ _ _ fsV_sane (by decide) (by decide)
    (packP _ legacy_perm_hardlink_reaches_preexisting.2.2.1) with h1 | ⟨i, h1, h2, _⟩ | ⟨p, h1, _⟩
  · cases h1
  · cases h1; revert h2; decide
  · cases h1

/-- **(4)** for symbolic-link entries (kind 2) and hard-link entries (kind 3) the permission step is
    skipped, whatever the file system, the flags and the path -/
theorem perm_link_entries_skipped (keepPerm : Bool) (kind : Nat) (fs : Fs) (cwd : Path) (path : Bytes)
    (hk : kind = 2 ∨ kind = 3) : permStep keepPerm kind fs cwd path = .none := by
  unfold permStep
  rcases hk with rfl | rfl <;> simp

/-- non-vacuity of (4): on the state and path of (3b) the legacy step is NOT skipped for the hard-link
    entry (it reaches inode 1), the current one is; for kind 2 both are; and the current step is not
    vacuous for kinds 0 and 1 -/
example :
    permStepLegacy true 3 (extractEntry false [s] out fsV ⟨aliasN, 3, victim⟩).1 [s] (joinP out aliasN) = .file 1 ∧
    permStep true 3 (extractEntry false [s] out fsV ⟨aliasN, 3, victim⟩).1 [s] (joinP out aliasN) = .none ∧
    permStep true 2 fsL [s] (joinP out lnk) = .none ∧ permStepLegacy true 2 fsL [s] (joinP out lnk) = .none ∧
    permStep true 0 fsV [s] (joinP out victim) = .file 1 ∧ permStep true 1 fsV [s] out = .dir [s, out] := by
  decide +kernel

/-- … hence for such an entry the permission step after `extract_entry` touches nothing -/
theorem perm_link_entries_skipped_entry (keepPerm ow : Bool) (cwd : Path) (outDir : Bytes) (fs : Fs) (e : XEntry)
    (hk : e.kind = 2 ∨ e.kind = 3) : (extractEntryP keepPerm ow cwd outDir fs e).2.2 = .none := by
  unfold extractEntryP
  split
  · exact perm_link_entries_skipped keepPerm e.kind _ cwd _ hk
  · rfl

/-- non-vacuity: the hard-link entry of (3b) and the symbolic-link entry of (3a) are extracted (no error)
    and the step touches nothing -/
example :
    (extractEntryP true false [s] out fsV ⟨aliasN, 3, victim⟩).2 = (none, .none) ∧
    (extractEntryP true false [s] out fs0 ⟨lnk, 2, toSecret⟩).2 = (none, .none) := by
  decide +kernel

/-- the step is also skipped whenever the object at `path` is a symbolic link -/
theorem perm_link_object_skipped (keepPerm : Bool) (kind : Nat) (fs : Fs) (cwd : Path) (path : Bytes)
    (hl : isLinkAt fs cwd path = true) : permStep keepPerm kind fs cwd path = .none := by
  unfold permStep
  simp [hl]

/-- non-vacuity: in `fsL` the object at `out/l` is a symbolic link to the outside file; a step for a
    regular-file entry on that path is skipped, the legacy step reached inode 1 -/
example :
    isLinkAt fsL [s] (joinP out lnk) = true ∧ permStep true 0 fsL [s] (joinP out lnk) = .none ∧
    permStepLegacy true 0 fsL [s] (joinP out lnk) = .file 1 := by
  decide +kernel

#print axioms perm_target_inside
#print axioms perm_target_inside_orig
#print axioms perm_target_fresh_partial
#print axioms fresh_false_for_dotdot_dir
#print axioms fresh_false_for_dotdot_file
#print axioms fresh_false_for_kind4
#print axioms perm_target_fresh_without_name_hyp_is_false
#print axioms perm_target_fresh_without_kind_hyp_is_false
#print axioms legacy_perm_hardlink_of_symlink_reaches_outside
#print axioms legacy_perm_target_inside_is_false
#print axioms legacy_perm_hardlink_reaches_preexisting
#print axioms legacy_perm_target_fresh_is_false
#print axioms perm_link_entries_skipped
#print axioms perm_link_entries_skipped_entry
#print axioms perm_link_object_skipped

end Pna.C09P
