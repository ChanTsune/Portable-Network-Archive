import PnaVerif.Generated.Consts
import PnaVerif.Model.Archive
/-!
Proof obligations tying the model's constants to the values regenerated from the compiled
repository on every run: if the code's signature, chunk type codes, enum discriminants or
minimum chunk size change, these stop checking.
-/
namespace Pna.ConstsTie
open Pna

theorem signature_eq : Generated.signature = signature := by decide
theorem min_chunk_eq : Generated.minChunkBytes = Chunk.minBytes := by decide
theorem types_eq :
    Generated.tyAHED = ChunkType.AHED.toBytes ∧ Generated.tyAEND = ChunkType.AEND.toBytes ∧
    Generated.tyANXT = ChunkType.ANXT.toBytes ∧ Generated.tyFHED = ChunkType.FHED.toBytes ∧
    Generated.tyPHSF = ChunkType.PHSF.toBytes ∧ Generated.tyFDAT = ChunkType.FDAT.toBytes ∧
    Generated.tyFEND = ChunkType.FEND.toBytes ∧ Generated.tySHED = ChunkType.SHED.toBytes ∧
    Generated.tySDAT = ChunkType.SDAT.toBytes ∧ Generated.tySEND = ChunkType.SEND.toBytes ∧
    Generated.tyfSIZ = ChunkType.fSIZ.toBytes ∧ Generated.tycTIM = ChunkType.cTIM.toBytes ∧
    Generated.tymTIM = ChunkType.mTIM.toBytes ∧ Generated.tyaTIM = ChunkType.aTIM.toBytes ∧
    Generated.tyfPRM = ChunkType.fPRM.toBytes ∧ Generated.tyxATR = ChunkType.xATR.toBytes := by decide

theorem enums_eq :
    (∀ n, n < 256 → (validCompression n = true ↔ n ∈ Generated.compressionCodes)) ∧
    (∀ n, n < 256 → (validEncryption n = true ↔ n ∈ Generated.encryptionCodes)) ∧
    (∀ n, n < 256 → (validCipherMode n = true ↔ n ∈ Generated.cipherModeCodes)) ∧
    (∀ n, n < 256 → (validKind n = true ↔ n ∈ Generated.dataKindCodes)) := by
  refine ⟨fun n _ => ?_, fun n _ => ?_, fun n _ => ?_, fun n _ => ?_⟩
  · simp [validCompression, Generated.compressionCodes, or_assoc]
  · simp [validEncryption, Generated.encryptionCodes]; omega
  · simp [validCipherMode, Generated.cipherModeCodes]; omega
  · simp [validKind, Generated.dataKindCodes]; omega

/-- The empty archive the library writes is exactly signature ++ AHED(0,0,0) ++ AEND. -/
theorem empty_archive_eq :
    Generated.emptyArchive = signature ++ (Chunk.mk ChunkType.AHED (encAHED ⟨0, 0, 0⟩)).encode
      ++ (Chunk.mk ChunkType.AEND []).encode := by decide +kernel

end Pna.ConstsTie
