import PnaVerif.Model.Cli.Extract
/-!
# C09 — part 2: file-system effects of extraction
`extract_entry` transcribed over the abstract file system (`Model/Fs.lean`,
`Model/Cli/Extract.lean`, cross-checked against the Linux VFS by the `extract-fs` family).

Of `extract_entry` before the `fix:` (`extractEntryLegacy`) the full statement — "extracting any archive
creates, modifies or links nothing outside the output directory" — is false, in the model as in the code;
the two escapes are kept here as kernel-checked witnesses, so that the statement is seen to discriminate:
* `legacy_escape_through_symlink` — a symbolic-link entry followed by an entry beneath it writes outside;
* `legacy_escape_hardlink_source` — a hard-link entry whose source leaves the output directory links an
  outside inode in.
With `ensure_confined` (nothing is extracted through a symbolic link below the output directory;
a link at the destination is an existing object; a hard-link source must be an object inside the
output directory reached without passing through a link) the same archives are refused
(`symlink_then_path_refused`, `hardlink_source_refused`, and the variants through a dangling link,
an absolute source, a source beneath a link, `--overwrite` onto a link), and the general
statement is `Props/C09Confined.lean`.
-/
namespace Pna.C09Fs
open Pna Pna.Fs Pna.Cli

def s : Bytes := [115]
def out : Bytes := [111, 117, 116]
def outside : Bytes := [111, 117, 116, 115, 105, 100, 101]
def secret : Bytes := [115, 101, 99]

/-- sandbox: /s/out (empty) and /s/outside/sec -/
def fs0 : Fs := ⟨[([s], .dir), ([s, out], .dir), ([s, outside], .dir), ([s, outside, secret], .file 1)], [(1, [1, 2, 3])], 2⟩

def outsideNodes (fs : Fs) : List (Path × Node) := fs.nodes.filter fun p => !([s, out].isPrefixOf p.1)

/-- The property as a predicate on one run. -/
def OutsideUnchanged (before after : Fs) : Prop :=
  outsideNodes after = outsideNodes before ∧
  ∀ ino, (outsideNodes before).any (·.2 == .file ino) →
    after.content ino = before.content ino ∧
    (after.nodes.filter (·.2 == .file ino)).length = (before.nodes.filter (·.2 == .file ino)).length

instance (a b : Fs) : Decidable (outsideNodes a = outsideNodes b) := inferInstance

/-- (legacy) symlink `l -> ../outside`, then file `l/x`: `x` is created in /s/outside. -/
theorem legacy_escape_through_symlink :
    let es : List XEntry := [⟨[108], 2, [46, 46, 47] ++ outside⟩, ⟨[108, 47, 120], 0, [9]⟩]
    let r := extractAllLegacy false [s] out fs0 es
    r.2 = none ∧ outsideNodes r.1 ≠ outsideNodes fs0 ∧ r.1.lookup [s, outside, [120]] = some (.file 2) := by
  decide +kernel

/-- (legacy) hard link `h` with source `../outside/sec`: the outside inode gains a link inside `out`. -/
theorem legacy_escape_hardlink_source :
    let es : List XEntry := [⟨[104], 3, [46, 46, 47] ++ outside ++ [47] ++ secret⟩]
    let r := extractAllLegacy false [s] out fs0 es
    r.2 = none ∧ r.1.lookup [s, out, [104]] = some (.file 1) ∧
    (r.1.nodes.filter (·.2 == .file 1)).length = 2 := by
  decide +kernel

/-- Hence the full statement is false of the legacy behaviour. -/
theorem legacy_C09_full_is_false :
    ¬ (∀ (ow : Bool) (fs : Fs) (es : List XEntry), outsideNodes (extractAllLegacy ow [s] out fs es).1 = outsideNodes fs) := by
  intro h
  have := h false fs0 [⟨[108], 2, [46, 46, 47] ++ outside⟩, ⟨[108, 47, 120], 0, [9]⟩]
  exact legacy_escape_through_symlink.2.1 this

/-- after the fix: the link is created, the entry beneath it is refused, nothing outside changes -/
theorem symlink_then_path_refused :
    let es : List XEntry := [⟨[108], 2, [46, 46, 47] ++ outside⟩, ⟨[108, 47, 120], 0, [9]⟩]
    let r := extractAll false [s] out fs0 es
    r.2 = some .outside ∧ outsideNodes r.1 = outsideNodes fs0 ∧ r.1.lookup [s, outside, [120]] = none ∧
    r.1.lookup [s, out, [108]] = some (.link ([46, 46, 47] ++ outside)) := by
  decide +kernel

/-- the same with `--overwrite` -/
theorem symlink_then_path_refused_overwrite :
    let es : List XEntry := [⟨[108], 2, [46, 46, 47] ++ outside⟩, ⟨[108, 47, 120], 0, [9]⟩]
    let r := extractAll true [s] out fs0 es
    r.2 = some .outside ∧ outsideNodes r.1 = outsideNodes fs0 := by
  decide +kernel

/-- a file entry with the name of a dangling link written earlier: the link is an existing object
    (without `--overwrite`), or is replaced by a regular file inside `out` (with it); the target
    outside is never created -/
theorem dangling_link_not_written_through :
    let es : List XEntry := [⟨[108], 2, [46, 46, 47] ++ outside ++ [47, 110]⟩, ⟨[108], 0, [9]⟩]
    (extractAll false [s] out fs0 es).2 = some .alreadyExists ∧
    outsideNodes (extractAll false [s] out fs0 es).1 = outsideNodes fs0 ∧
    outsideNodes (extractAll true [s] out fs0 es).1 = outsideNodes fs0 ∧
    (extractAll true [s] out fs0 es).1.lookup [s, out, [108]] = some (.file 2) := by
  decide +kernel

/-- `--overwrite` onto a link to an outside file replaces the link, not the file -/
theorem overwrite_replaces_link_not_target :
    let es : List XEntry := [⟨[108], 2, [46, 46, 47] ++ outside ++ [47] ++ secret⟩, ⟨[108], 0, [9]⟩]
    let r := extractAll true [s] out fs0 es
    r.2 = none ∧ r.1.content 1 = [1, 2, 3] ∧ outsideNodes r.1 = outsideNodes fs0 := by
  decide +kernel

/-- a hard-link source that climbs out, is absolute, or lies beneath a link is refused -/
theorem hardlink_source_refused :
    (extractAll false [s] out fs0 [⟨[104], 3, [46, 46, 47] ++ outside ++ [47] ++ secret⟩]).2 = some .outside ∧
    (extractAll false [s] out fs0 [⟨[104], 3, [47, 115, 47] ++ outside ++ [47] ++ secret⟩]).2 = some .outside ∧
    (extractAll false [s] out fs0 [⟨[108], 2, [46, 46, 47] ++ outside⟩, ⟨[104], 3, [108, 47] ++ secret⟩]).2 = some .outside ∧
    (extractAll false [s] out fs0 [⟨[108], 2, [46, 46, 47] ++ outside⟩, ⟨[104], 3, [108, 47] ++ secret⟩]).1.lookup [s, out, [104]] = none := by
  decide +kernel

/-- non-vacuity: ordinary archives still extract, links and hard links to inside objects included -/
theorem ordinary_archive_extracts :
    let es : List XEntry := [⟨[100, 47, 97], 0, [7]⟩, ⟨[108], 2, [100, 47, 97]⟩, ⟨[100, 47, 104], 3, [97]⟩, ⟨[101], 1, []⟩]
    let r := extractAll false [s] out fs0 es
    r.2 = none ∧ r.1.lookup [s, out, [100], [97]] = some (.file 2) ∧ r.1.lookup [s, out, [100], [104]] = some (.file 2) ∧
    r.1.lookup [s, out, [108]] = some (.link [100, 47, 97]) ∧ r.1.lookup [s, out, [101]] = some .dir ∧
    outsideNodes r.1 = outsideNodes fs0 := by
  decide +kernel

/-- For a relative, non-empty name the destination string is `outDir/name` verbatim: `Path::join` replaces the
    left side only for an absolute right side.  Nothing is said about `..` (the statement holds of `../x` too);
    that sanitised names have none is part 1 (`C09.sanitize_safe`). -/
theorem dest_below_out (outDir name : Bytes) (hn : ¬ isAbs name = true) (hne : name ≠ []) (ho : outDir ≠ []) :
    joinP outDir name = outDir ++ [slash] ++ name := by
  unfold joinP
  simp [hn, hne, ho]

end Pna.C09Fs
