import PnaVerif.Lemmas.ComposeInv
import PnaVerif.Props.C02
import PnaVerif.Props.C09Confined
/-!
# C02 at the model level — the composition of the two transcriptions equals the specification

`create` archives `entriesOf o t` for a source tree `t` (Model/Cli/Create.lean: `archived`, names
sanitised); `extractAll` (Model/Cli/Extract.lean) extracts them over the abstract file system
(Model/Fs.lean).  `expectedTree o t` is the SPECIFICATION of what is then found in an empty output
directory.  The theorems below say the two agree.

Setting: `cwd : Path`, `outDir : Bytes` a plain relative directory name (`comps outDir = [d]`,
`d ≠ ".."`, not absolute), `O = cwd ++ [d]`, `EmptyOut fs O` (the file system is `Sane` and nothing
lies strictly inside `O`), `TreeOK t` (Lemmas/ComposeTree.lean: kinds ≤ 2, clean non-empty relative paths,
pairwise distinct, every proper ancestor is a DIRECTORY node, parents before children).

**Model limit** `DepthOK fs t`: every node's depth + 2 is within `fuelFor fs = 40 + 8·#nodes`.
It is needed: the model's path walks (`resolve`, `createDirAll.go`) carry that fuel (there to model
ELOOP) and it is fixed when a call starts; a destination deeper than the fuel makes the model's
`create_dir_all` answer `loop` (`compose_depth_needed` is a kernel-checked witness).  It holds for
every tree of depth ≤ 38 whatever the file system (`depthOK_of_le_38`).

Modes and times are not part of the `Fs` model; `objAt` compares paths, kinds, file contents and
link targets.
-/
namespace Pna.C02C
open Pna Pna.Fs Pna.Cli Pna.Confined Pna.Compose

/-- the loop invariant at the end (Lemmas/ComposeInv.lean), under the hypotheses as stated in this file -/
theorem compose_inv (o : CXOpts) (cwd : Path) (outDir d : Bytes) (fs : Fs) (t : List TNode)
    (hcomps : comps outDir = [d]) (hd : d ≠ [dot, dot]) (hrel : ¬ isAbs outDir = true)
    (hE : EmptyOut fs (cwd ++ [d])) (hT : TreeOK t) (hD : DepthOK fs t) :
    (extractAll false cwd outDir fs (entriesOf o t)).2 = none ∧
    Inv (cwd ++ [d]) (fuelFor fs) (extractAll false cwd outDir fs (entriesOf o t)).1 (archived o t) := by
  have ho : OutDir outDir d := ⟨hcomps, hd, by simpa using hrel⟩
  obtain ⟨fs', h, hinv⟩ := extractAll_compose o ho hE hT hD
  rw [h]; exact ⟨rfl, hinv⟩

/-- extraction of what `create` archives, into an empty output directory, succeeds -/
theorem compose_succeeds (o : CXOpts) (cwd : Path) (outDir d : Bytes) (fs : Fs) (t : List TNode)
    (hcomps : comps outDir = [d]) (hd : d ≠ [dot, dot]) (hrel : ¬ isAbs outDir = true)
    (hE : EmptyOut fs (cwd ++ [d])) (hT : TreeOK t) (hD : DepthOK fs t) :
    (extractAll false cwd outDir fs (entriesOf o t)).2 = none :=
  (compose_inv o cwd outDir d fs t hcomps hd hrel hE hT hD).1

/-- every object of the specification is found below the output directory: same path, kind,
    file content / link target -/
theorem compose_complete (o : CXOpts) (cwd : Path) (outDir d : Bytes) (fs : Fs) (t : List TNode)
    (hcomps : comps outDir = [d]) (hd : d ≠ [dot, dot]) (hrel : ¬ isAbs outDir = true)
    (hE : EmptyOut fs (cwd ++ [d])) (hT : TreeOK t) (hD : DepthOK fs t) :
    ∀ x ∈ expectedTree o t, objAt (extractAll false cwd outDir fs (entriesOf o t)).1 (cwd ++ [d]) x :=
  inv_complete hT (compose_inv o cwd outDir d fs t hcomps hd hrel hE hT hD).2

/-- and nothing else is: every object strictly inside the output directory is at the path of an
    object of the specification (whose kind and content it then has, by `compose_complete`) -/
theorem compose_nothing_else (o : CXOpts) (cwd : Path) (outDir d : Bytes) (fs : Fs) (t : List TNode)
    (hcomps : comps outDir = [d]) (hd : d ≠ [dot, dot]) (hrel : ¬ isAbs outDir = true)
    (hE : EmptyOut fs (cwd ++ [d])) (hT : TreeOK t) (hD : DepthOK fs t) :
    ∀ p, Inside (cwd ++ [d]) p → p ≠ cwd ++ [d] →
      (extractAll false cwd outDir fs (entriesOf o t)).1.lookup p ≠ none →
      ∃ x ∈ expectedTree o t, p = cwd ++ [d] ++ splitSlash x.path :=
  inv_nothing_else hT (compose_inv o cwd outDir d fs t hcomps hd hrel hE hT hD).2

/-- (corollary of the confinement theorem, Props/C09Confined.lean) nothing outside the output
    directory changes; of `hE` only its `Sane` part is used, and no hypothesis on the tree -/
theorem compose_outside_untouched (o : CXOpts) (cwd : Path) (outDir d : Bytes) (fs : Fs) (t : List TNode)
    (hcomps : comps outDir = [d]) (hd : d ≠ [dot, dot]) (hrel : ¬ isAbs outDir = true)
    (hE : EmptyOut fs (cwd ++ [d])) :
    OutsideSame (cwd ++ [d]) fs (extractAll false cwd outDir fs (entriesOf o t)).1 := by
  refine (Pna.C09C.extractAll_confined_partial false cwd outDir d fs (entriesOf o t) hcomps hd hrel hE.1 ?_).2
  intro e he
  obtain ⟨n, _, rfl⟩ := List.mem_map.1 he
  exact Pna.C09C.sanitized_names_ok false n.path (Or.inr rfl)

/-- distinct regular files of the result have distinct inodes: no content is shared by accident -/
theorem compose_files_distinct (o : CXOpts) (cwd : Path) (outDir d : Bytes) (fs : Fs) (t : List TNode)
    (hcomps : comps outDir = [d]) (hd : d ≠ [dot, dot]) (hrel : ¬ isAbs outDir = true)
    (hE : EmptyOut fs (cwd ++ [d])) (hT : TreeOK t) (hD : DepthOK fs t) :
    ∀ x ∈ expectedTree o t, ∀ y ∈ expectedTree o t, x.kind = 0 → y.kind = 0 → x.path ≠ y.path →
    ∀ i j, (extractAll false cwd outDir fs (entriesOf o t)).1.lookup (cwd ++ [d] ++ splitSlash x.path) = some (.file i) →
      (extractAll false cwd outDir fs (entriesOf o t)).1.lookup (cwd ++ [d] ++ splitSlash y.path) = some (.file j) →
      i ≠ j :=
  inv_files_distinct hT (compose_inv o cwd outDir d fs t hcomps hd hrel hE hT hD).2

theorem compose_sane (o : CXOpts) (cwd : Path) (outDir d : Bytes) (fs : Fs) (t : List TNode)
    (hcomps : comps outDir = [d]) (hd : d ≠ [dot, dot]) (hrel : ¬ isAbs outDir = true)
    (hE : EmptyOut fs (cwd ++ [d])) (hT : TreeOK t) (hD : DepthOK fs t) :
    Sane (extractAll false cwd outDir fs (entriesOf o t)).1 (cwd ++ [d]) :=
  (compose_inv o cwd outDir d fs t hcomps hd hrel hE hT hD).2.sane

theorem depthOK_of_le_38 (fs : Fs) (t : List TNode) (h : ∀ n ∈ t, (splitSlash n.path).length ≤ 38) :
    DepthOK fs t := by
  intro n hn
  have := h n hn
  unfold fuelFor; omega

/-- reading aid for `compose_complete` / `compose_nothing_else`: for an archived node the specification's
    path is the node's own (clean) path, and such a path is recovered from its components — so
    `O ++ splitSlash x.path` names a different place for every different path -/
theorem expected_paths_clean (o : CXOpts) (t : List TNode) (hT : TreeOK t) :
    ∀ n ∈ archived o t, (restoredNode o n).path = n.path ∧ joinSlash (splitSlash n.path) = n.path :=
  fun _ hn => ⟨(hT.clean (archived_mem hn)).san, (hT.clean (archived_mem hn)).join⟩

/-! ### non-vacuity: the sandbox of `Props/C09Fs.lean` (`/s/out` empty) and `exTree` of `Props/C02.lean`
(nested file `t/a`, empty directory `t/e`, dangling symbolic link `t/l`) -/

open Pna.C09Fs Pna.C02

theorem exTree_ok : TreeOK exTree := by decide +kernel
theorem fs0_emptyOut : EmptyOut fs0 [s, out] := emptyOut_of_B (by decide +kernel)
theorem exTree_depth : DepthOK fs0 exTree := by decide +kernel

/-- the four statements instantiated, for every option setting -/
theorem compose_exTree (o : CXOpts) :
    (extractAll false [s] out fs0 (entriesOf o exTree)).2 = none ∧
    (∀ x ∈ expectedTree o exTree, objAt (extractAll false [s] out fs0 (entriesOf o exTree)).1 [s, out] x) ∧
    (∀ p, Inside [s, out] p → p ≠ [s, out] → (extractAll false [s] out fs0 (entriesOf o exTree)).1.lookup p ≠ none →
      ∃ x ∈ expectedTree o exTree, p = [s, out] ++ splitSlash x.path) ∧
    OutsideSame [s, out] fs0 (extractAll false [s] out fs0 (entriesOf o exTree)).1 :=
  ⟨compose_succeeds o [s] out out fs0 exTree (by decide) (by decide) (by decide) fs0_emptyOut exTree_ok exTree_depth,
   compose_complete o [s] out out fs0 exTree (by decide) (by decide) (by decide) fs0_emptyOut exTree_ok exTree_depth,
   compose_nothing_else o [s] out out fs0 exTree (by decide) (by decide) (by decide) fs0_emptyOut exTree_ok exTree_depth,
   compose_outside_untouched o [s] out out fs0 exTree (by decide) (by decide) (by decide) fs0_emptyOut⟩

/-- … and computed independently by the kernel: what lies strictly inside `/s/out` afterwards.
    Without `--keep-dir`: `t` (implied), the file `t/a` with its bytes, the link `t/l`; the empty
    directory `t/e` is absent.  With `--keep-dir` it is there too. -/
theorem compose_exTree_computed :
    let inside (fs : Fs) := fs.nodes.filter fun n => [s, out].isPrefixOf n.1 && n.1 != [s, out]
    let r0 := extractAll false [s] out fs0 (entriesOf ⟨false, true, true, true, true⟩ exTree)
    let r1 := extractAll false [s] out fs0 (entriesOf ⟨true, true, true, true, true⟩ exTree)
    r0.2 = none ∧ r0.1.content 2 = [1, 2, 3] ∧
    inside r0.1 = [([s, out, [116]], .dir), ([s, out, [116], [97]], .file 2), ([s, out, [116], [108]], .link [110, 111])] ∧
    r1.2 = none ∧ r1.1.content 2 = [1, 2, 3] ∧
    inside r1.1 = [([s, out, [116]], .dir), ([s, out, [116], [97]], .file 2), ([s, out, [116], [101]], .dir),
      ([s, out, [116], [108]], .link [110, 111])] := by
  decide +kernel

/-! ### the hypotheses on the tree are used (kernel-checked witnesses against the model) -/

/-- walk order matters with `--keep-dir`: a directory entry after one of its children is refused -/
theorem compose_parents_first_needed :
    let t : List TNode := [⟨[116, 47, 97], 0, [1], 0, 0⟩, ⟨[116], 1, [], 0, 0⟩]
    ¬ ParentsFirst t ∧
    (extractAll false [s] out fs0 (entriesOf ⟨true, true, true, true, true⟩ t)).2 = some .alreadyExists := by
  decide +kernel

/-- nothing may lie beneath a symbolic link: `ensure_confined` refuses the entry -/
theorem compose_no_link_ancestor_needed :
    let t : List TNode := [⟨[108], 2, [120], 0, 0⟩, ⟨[108, 47, 97], 0, [1], 0, 0⟩]
    ¬ TreeOK t ∧
    (extractAll false [s] out fs0 (entriesOf ⟨false, true, true, true, true⟩ t)).2 = some .outside := by
  decide +kernel

/-- `a/a/…/a` with `k` components -/
def deepPath (k : Nat) : Bytes := joinSlash (List.replicate k [97])

/-- the directories `a`, `a/a`, … (47 of them) and a regular file at depth 48 -/
def deepTree : List TNode :=
  (List.range 47).map (fun i => ⟨deepPath (i + 1), 1, [], 0, 0⟩) ++ [⟨deepPath 48, 0, [7], 0, 0⟩]

/-- the smallest sandbox: `/out` only, so `fuelFor = 48` -/
def fsMin : Fs := ⟨[([out], .dir)], [], 1⟩

theorem ancestors_deepPath (k : Nat) :
    ancestors (deepPath (k + 1)) = (List.range k).map fun j => deepPath (j + 1) := by
  have hs : splitSlash (deepPath (k + 1)) = List.replicate (k + 1) [97] :=
    splitSlash_joinSlash _ (by simp) (by simp [slash])
  show (List.range ((splitSlash (deepPath (k + 1))).length - 1)).map _ = _
  rw [hs, List.length_replicate]
  apply List.map_congr_left
  intro j hj
  have := List.mem_range.1 hj
  rw [List.take_replicate, deepPath, Nat.min_eq_left (by omega)]

theorem deepTree_get : ∀ i (h : i < deepTree.length),
    deepTree[i].path = deepPath (i + 1) ∧ (i < 47 → deepTree[i].kind = 1) := by decide +kernel

/-- by reasoning: evaluating `ParentsFirst deepTree` compares some 27 000 pairs of paths -/
theorem deepTree_parentsFirst : ParentsFirst deepTree := by
  intro i h a ha
  rw [(deepTree_get i h).1, ancestors_deepPath] at ha
  obtain ⟨j, hj, rfl⟩ := List.mem_map.1 ha
  have hji := List.mem_range.1 hj
  have hl : deepTree.length = 48 := by decide +kernel
  have hj' : j < deepTree.length := by omega
  exact ⟨deepTree[j], List.mem_take_iff_getElem.2 ⟨j, by omega, rfl⟩,
    (deepTree_get j hj').2 (by omega), (deepTree_get j hj').1⟩

/-- `DepthOK` cannot be dropped: a well-formed tree of depth 48 into the one-node sandbox makes the
    model's `create_dir_all` run out of fuel -/
theorem compose_depth_needed :
    EmptyOut fsMin [out] ∧ TreeOK deepTree ∧ ¬ DepthOK fsMin deepTree ∧
    (extractAll false [] out fsMin (entriesOf ⟨false, true, true, true, true⟩ deepTree)).2 = some (.fs .loop) := by
  refine ⟨emptyOut_of_B (by decide +kernel),
    treeOK_of_parentsFirst (by decide +kernel)
      (List.Pairwise.of_map (S := (· ≠ ·)) List.length (fun _ _ h e => h (congrArg _ e)) (by decide +kernel))
      deepTree_parentsFirst,
    by decide +kernel, ?_⟩
  -- the one archived entry (no `--keep-dir`) fails in `create_dir_all(parent)`: 48 components, fuel 48
  have he : entriesOf ⟨false, true, true, true, true⟩ deepTree = [⟨deepPath 48, 0, [7]⟩] := by decide +kernel
  have hc : confined fsMin [] out ((parentP (deepPath 48)).getD []) = true := by decide +kernel
  have hx : fsMin.existsP [] (joinP out (deepPath 48)) = false := by decide +kernel
  have hl : isLinkAt fsMin [] (joinP out (deepPath 48)) = false := by decide +kernel
  have hp : parentP (joinP out (deepPath 48)) = some (joinP out (deepPath 47)) := by decide +kernel
  have hcomps : comps (joinP out (deepPath 47)) = out :: List.replicate 47 [97] := by decide +kernel
  have hmk : fsMin.createDirAll [] (joinP out (deepPath 47)) = .error .loop := by
    unfold Fs.createDirAll
    rw [hcomps]
    exact createDirAll_go_loop _ _ _ _ (by decide) (by decide)
  rw [he, extractAll_singleton (by decide),
    extractEntry_pass (e := ⟨deepPath 48, 0, [7]⟩) hc hx hl, mkParent_error hp hmk]
  rfl

/-- two levels less are within the bound, and the theorems apply (`DepthOK` asks for depth + 2 ≤ fuel) -/
example : DepthOK fsMin (deepTree.take 46) := by decide +kernel

#print axioms compose_succeeds
#print axioms compose_complete
#print axioms compose_nothing_else
#print axioms compose_outside_untouched
#print axioms compose_files_distinct
#print axioms compose_sane
#print axioms depthOK_of_le_38
#print axioms exTree_ok
#print axioms fs0_emptyOut
#print axioms exTree_depth
#print axioms compose_exTree
#print axioms compose_exTree_computed
#print axioms compose_parents_first_needed
#print axioms compose_no_link_ancestor_needed
#print axioms compose_depth_needed

end Pna.C02C
