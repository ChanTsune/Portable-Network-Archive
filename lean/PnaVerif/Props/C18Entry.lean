import PnaVerif.Lemmas.Sizes
import PnaVerif.Lemmas.Split
import PnaVerif.Lemmas.CapstoneEx
import PnaVerif.Props.C18
/-!
# C18 — every reported size is exact (entry level)

On top of the chunk-level floor of Props/C18.lean (`bytes_len` of a chunk = bytes written for it): the count
`Archive::add_entry` returns, the compressed size `NormalEntry::try_from(RawEntry)` computes and what a write/read
cycle does to it, the raw size `EntryBuilder::build` records (`builtMd`, Lemmas/Sizes) and the compressed size of a
built entry — each against the bytes written or decoded.  `extra` chunks are written verbatim, so the statements about
the FDAT total on the wire need "no FDAT chunk among `extra`" (implied by `NormalEntry.WF`); the counterexample is given.
-/
namespace Pna.C18E
open Pna Pna.Capstone ChunkType

/-- The count `add_entry` returns (sum of `bytes_len` over the entry's chunks) is the number of bytes
    written for the entry. -/
theorem add_entry_count (e : ReadEntry) : partLen (serEntry e) = (encodeChunks (serEntry e)).length :=
  C18.part_bytes_len (serEntry e)

/-- the same for an arbitrary entry part (`add_entry_part`) -/
theorem add_entry_part_count (cs : List Chunk) : partLen cs = (encodeChunks cs).length :=
  C18.part_bytes_len cs

/-- several entries: the counts add up to the bytes between AHED and the end markers -/
theorem add_entries_count (es : List ReadEntry) :
    ((es.map serEntry).map partLen).sum = (encodeChunks (es.map serEntry).flatten).length := by
  induction es with
  | nil => rfl
  | cons e es ih =>
    rw [List.map_cons, List.map_cons, List.sum_cons, List.flatten_cons, encodeChunks_append,
      List.length_append, ih, add_entry_count]

-- a normal entry with size, PHSF-less, two data slices, and a solid block: 12 bytes framing per chunk
example : partLen (serEntry (.normal (buildNormal plain exA))) = 164 ∧
    (encodeChunks (serEntry (.normal (buildNormal plain exA)))).length = 164 := by decide +kernel
example : partLen (serEntry (.solid ⟨⟨0, 0, 0, 0, 0⟩, none, [[1, 2], [3]], []⟩)) = 56 := by decide +kernel

/-- The compressed size `NormalEntry::try_from(RawEntry)` computes is the total payload of the FDAT
    chunks before the first FEND (where the parser stops). -/
theorem parsed_compressed_size (raw : List Chunk) (e : NormalEntry) (h : parseN raw = .ok e) :
    e.compressedSize
      = (((raw.takeWhile (fun c => c.ty ≠ ChunkType.FEND)).filter (fun c => c.ty = ChunkType.FDAT)).map
          (fun c => c.data.length)).sum := by
  obtain ⟨a, hd, hl, hi, hmaj, hmin, rfl⟩ := parseN_ok h
  have := nLoop_data_sum hl
  simp only [NormalEntry.compressedSize, List.map_reverse, List.sum_reverse]
  rw [this]
  simp [fdatTotal]

/-- a foreign layout: data chunks interleaved with metadata, an FDAT chunk after FEND is not counted -/
def exRaw : List Chunk :=
  [⟨FHED, [0, 0, 0, 0, 0, 0, 97]⟩, ⟨FDAT, [1, 2, 3]⟩, ⟨fSIZ, [5]⟩, ⟨FDAT, []⟩, ⟨FDAT, [4, 5]⟩, ⟨FEND, []⟩,
   ⟨FDAT, [9, 9, 9, 9]⟩]

example : (parseN exRaw).map' (fun e => (e.compressedSize, e.data)) = .ok (5, [[1, 2, 3], [], [4, 5]]) := by
  decide +kernel

/-- Re-cutting (what a write/read cycle does to the slices) keeps the compressed size. -/
theorem reser_keeps_compressed_size (e : NormalEntry) : e.recut.compressedSize = e.compressedSize :=
  recut_compressedSize e

/-- Without a hypothesis on `extra`, `fdatTotal (serN e) = e.compressedSize` is false: `extra` chunks are written
    verbatim, so an FDAT chunk among them (excluded by `NormalEntry.WF`, not by the type) is counted on the wire. -/
example : ¬ ∀ e : NormalEntry, fdatTotal (serN e) = e.compressedSize := by
  intro h
  have := h ⟨⟨0, 0, 0, 0, 0, 0, []⟩, none, [⟨FDAT, [1]⟩], [], {}, []⟩
  revert this
  decide +kernel

/-- The FDAT payload total of the written entry equals the size it reports — provided no `extra`
    chunk is itself an FDAT chunk.  In general the difference is exactly the FDAT payload among `extra`
    (`fdatTotal_serN_gen`). -/
theorem serN_fdat_total_partial (e : NormalEntry) (hx : ∀ c ∈ e.extra, c.ty ≠ ChunkType.FDAT) :
    (((serN e).filter (fun c => c.ty = ChunkType.FDAT)).map (fun c => c.data.length)).sum = e.compressedSize :=
  fdatTotal_serN e hx

/-- the general form: nothing assumed -/
theorem serN_fdat_total_gen (e : NormalEntry) :
    (((serN e).filter (fun c => c.ty = ChunkType.FDAT)).map (fun c => c.data.length)).sum
      = (((e.extra).filter (fun c => c.ty = ChunkType.FDAT)).map (fun c => c.data.length)).sum + e.compressedSize :=
  fdatTotal_serN_gen e

/-- the hypothesis holds for every well-formed entry, in particular (`parseN_WF`) for every parsed one -/
theorem serN_fdat_total_WF (e : NormalEntry) (h : e.WF) :
    (((serN e).filter (fun c => c.ty = ChunkType.FDAT)).map (fun c => c.data.length)).sum = e.compressedSize :=
  fdatTotal_serN e (h.extra_ne rfl)

/-- read → write: the entry written back carries, in its FDAT chunks, exactly the size that was parsed,
    and parsing it again reports the same size -/
theorem parsed_size_survives_rewrite (raw : List Chunk) (e : NormalEntry) (h : parseN raw = .ok e) :
    fdatTotal (serN e) = e.compressedSize ∧
    ∃ e2, parseN (serN e) = .ok e2 ∧ e2.compressedSize = e.compressedSize :=
  ⟨fdatTotal_serN e ((parseN_WF raw e h).extra_ne rfl),
    e.recut, parseN_serN e (parseN_WF raw e h), recut_compressedSize e⟩

-- an empty slice vanishes on the wire, the total does not change
def exE : NormalEntry := ⟨⟨0, 0, 0, 0, 0, 0, [97]⟩, none, [⟨⟨109, 121, 84, 121⟩, [1, 2, 3]⟩], [[1, 2, 3], [], [4, 5]], {}, []⟩
example : fdatTotal (serN exE) = 5 ∧ exE.compressedSize = 5 ∧ exE.recut.compressedSize = 5 ∧
    exE.recut.data ≠ exE.data := by decide +kernel
example : fdatTotal (serN (buildNormal plain exA)) = 5 ∧ (buildNormal plain exA).compressedSize = 5 := by
  decide +kernel
example : ∀ c ∈ (buildNormal plain exA).extra, c.ty ≠ ChunkType.FDAT := by decide +kernel

/-- the logical file as `EntryBuilder::build` completes it: the metadata gets the raw size the builder counted -/
def withBuiltMd (storeSize : Bool) (f : LFile) : LFile :=
  { f with md := builtMd storeSize f.kind f.md f.writes }

/-- For a file entry built with `store_file_size` on, the recorded raw size is the length of the
    content a reader decodes (from the entry as it comes back from the archive reader, slices re-cut). -/
theorem built_raw_size_is_content_length (s : Sink) (cfg : StreamCfg) (hc : cfg.OK) (f : LFile) (hk : f.kind = 0) :
    let f2 : LFile := { f with md := builtMd true f.kind f.md f.writes }
    (buildNormalW s cfg f2).md.rawSize = some f.writes.flatten.length ∧
      openNormal cfg (buildNormalW s cfg f2).recut = .ok f.writes.flatten := by
  intro f2
  refine ⟨?_, openNormal_recut s cfg hc f2⟩
  show (builtMd true f.kind f.md f.writes).rawSize = _
  rw [hk]
  exact builtMd_rawSize_file f.md f.writes

/-- the same read directly from the built entry (no archive in between) -/
theorem built_raw_size_is_content_length_direct (s : Sink) (cfg : StreamCfg) (hc : cfg.OK) (f : LFile)
    (hk : f.kind = 0) :
    (buildNormalW s cfg (withBuiltMd true f)).md.rawSize = some f.writes.flatten.length ∧
      openNormal cfg (buildNormalW s cfg (withBuiltMd true f)) = .ok f.writes.flatten := by
  refine ⟨(built_raw_size_is_content_length s cfg hc f hk).1, ?_⟩
  exact readData_storedData s cfg hc f.writes

/-- `None` otherwise: not a file, or `store_file_size` off -/
theorem built_raw_size_none (s : Sink) (cfg : StreamCfg) (storeSize : Bool) (f : LFile)
    (h : storeSize = false ∨ f.kind ≠ 0) :
    (buildNormalW s cfg (withBuiltMd storeSize f)).md.rawSize = none :=
  builtMd_rawSize_none storeSize f.kind f.md f.writes h

/-- the completed file is well-formed when the file is and the content length fits the fSIZ codec (16 bytes);
    whatever raw size `f.md` carried before is overwritten -/
theorem withBuiltMd_WF (storeSize : Bool) (f : LFile) (hf : f.WF) (hlen : f.writes.flatten.length < 2 ^ 128) :
    (withBuiltMd storeSize f).WF :=
  { hf with
    rawSize := by
      intro n hn
      have hn : (builtMd storeSize f.kind f.md f.writes).rawSize = some n := hn
      unfold builtMd at hn
      simp only at hn
      split at hn
      · cases hn
        rw [← List.length_flatten]; exact hlen
      · cases hn }

/-- **Write/read cycle.**  Serialising the built entry and parsing it again gives an entry with the same
    recorded raw size, still equal to the length of the content it decodes to.  Hypotheses: `LFile.WF`
    (Lemmas/Capstone) and the bound `NormalEntry.WF` puts on `rawSize` (`< 2^128`, the fSIZ codec keeps 16 bytes). -/
theorem built_raw_size_roundtrip (s : Sink) (cfg : StreamCfg) (hc : cfg.OK) (f : LFile) (hf : f.WF)
    (hk : f.kind = 0) (hlen : f.writes.flatten.length < 2 ^ 128) :
    let f2 : LFile := { f with md := builtMd true f.kind f.md f.writes }
    ∃ e, parseN (serN (buildNormalW s cfg f2)) = .ok e ∧ e.md.rawSize = (buildNormalW s cfg f2).md.rawSize ∧
      e.md.rawSize = some f.writes.flatten.length ∧ openNormal cfg e = .ok f.writes.flatten := by
  intro f2
  have h4 := built_raw_size_is_content_length s cfg hc f hk
  have hw : (buildNormalW s cfg f2).WF := buildNormalW_WF s cfg hc f2 (withBuiltMd_WF true f hf hlen)
  exact ⟨(buildNormalW s cfg f2).recut, parseN_serN _ hw, rfl, h4.1, h4.2⟩

/-- without the bound the cycle does not keep the size: the fSIZ codec keeps the low 16 bytes only -/
example : decFSIZ (encFSIZ (2 ^ 128 + 5)) = 5 := by decide +kernel

-- `exA` carries a (here: wrong on purpose) raw size 77; the builder overwrites it with the 5 bytes written
def exA77 : LFile := { exA with md := { exA.md with rawSize := some 77 } }
example : (buildNormalW .builder exCbc (withBuiltMd true exA77)).md.rawSize = some 5 ∧
    openNormal exCbc (buildNormalW .builder exCbc (withBuiltMd true exA77)).recut = .ok [1, 2, 3, 4, 5] ∧
    (parseN (serN (buildNormalW .builder exCbc (withBuiltMd true exA77)))).map' (fun e => e.md.rawSize)
      = .ok (some 5) ∧
    (buildNormalW .builder exCbc (withBuiltMd false exA77)).md.rawSize = none ∧
    (buildNormalW .builder exCbc (withBuiltMd true exD)).md.rawSize = none := by decide +kernel
example : exCbc.OK ∧ exA.WF ∧ exA.kind = 0 ∧ exA.writes.flatten.length < 2 ^ 128 :=
  ⟨exCbc_ok, exA_wf, rfl, by decide⟩

/-- `EntryBuilder::build`: `compressed_size` = total length of the stored slices. -/
theorem built_compressed_size (s : Sink) (cfg : StreamCfg) (f : LFile) :
    (buildNormalW s cfg f).compressedSize = ((storedData s cfg f.writes).map List.length).sum := rfl

/-- … and it is the FDAT payload total of the entry as written (no FDAT chunk among `extra`; implied by
    `LFile.WF`, see `built_compressed_size_on_wire_WF`). -/
theorem built_compressed_size_on_wire (s : Sink) (cfg : StreamCfg) (f : LFile)
    (hx : ∀ c ∈ f.extra, c.ty ≠ ChunkType.FDAT) :
    (((serN (buildNormalW s cfg f)).filter (fun c => c.ty = ChunkType.FDAT)).map (fun c => c.data.length)).sum
      = ((storedData s cfg f.writes).map List.length).sum :=
  fdatTotal_serN (buildNormalW s cfg f) hx

theorem built_compressed_size_on_wire_WF (s : Sink) (cfg : StreamCfg) (hc : cfg.OK) (f : LFile) (hf : f.WF) :
    fdatTotal (serN (buildNormalW s cfg f)) = (buildNormalW s cfg f).compressedSize ∧
    ∃ e, parseN (serN (buildNormalW s cfg f)) = .ok e ∧
      e.compressedSize = ((storedData s cfg f.writes).map List.length).sum :=
  ⟨fdatTotal_serN _ ((buildNormalW_WF s cfg hc f hf).extra_ne rfl),
    _, parseN_serN _ (buildNormalW_WF s cfg hc f hf), recut_compressedSize _⟩

-- CBC: 16-byte IV + one padded block, for 5 content bytes
example : (buildNormalW .builder exCbc exA).compressedSize = 32 ∧
    fdatTotal (serN (buildNormalW .builder exCbc exA)) = 32 ∧
    (buildNormalW .stream exCtr exB).compressedSize = 36 := by decide +kernel

end Pna.C18E

#print axioms Pna.C18E.add_entry_count
#print axioms Pna.C18E.parsed_compressed_size
#print axioms Pna.C18E.reser_keeps_compressed_size
#print axioms Pna.C18E.serN_fdat_total_partial
#print axioms Pna.C18E.built_raw_size_is_content_length
#print axioms Pna.C18E.built_raw_size_roundtrip
#print axioms Pna.C18E.built_compressed_size
#print axioms Pna.C18E.built_compressed_size_on_wire
