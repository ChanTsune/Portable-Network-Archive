import PnaVerif.Lemmas.Crc32
import PnaVerif.Lemmas.Chunk
/-!
# C05 — any altered byte is detected

Proved here, for every chunk, every payload, every position and every replacement value:
a changed byte of the chunk *type, data or CRC field* makes the parser answer `InvalidData`
(`alter_detected`).
The CRC argument is `Crc32.crc32_byte_change`: one LFSR step is injective on the 32-bit register
(`Crc32.bitUnstep` undoes it), so two inputs that differ in exactly one byte have different registers from
there on.
A changed *length field* re-frames other bytes, and the CRC does not cover it; all that is stated for it is
`C05_length_partial`: the parser succeeds only on bytes that are again an encoded chunk — see DESIGN §7/C05.
-/
namespace Pna.C05

open Pna

theorem crc_detects_byte_change (a c : Bytes) (b b' : UInt8) (h : b ≠ b') :
    Crc32.crc32 (a ++ b :: c) ≠ Crc32.crc32 (a ++ b' :: c) :=
  Crc32.crc32_byte_change a c b b' h

/-- One altered byte of an encoded chunk outside its length field — in the type, in the data or in the
    stored CRC — is always reported as `InvalidData`. -/
theorem alter_detected (c : Chunk) (r : Bytes) (hlen : c.data.length < 2 ^ 32)
    (j : Nat) (hj4 : 4 ≤ j) (hj : j < c.encode.length) (v : UInt8) (hv : v ≠ c.encode[j]) :
    decodeStream ((c.encode ++ r).set j v) = .error .invalidData :=
  decodeStream_alter c r hlen j hj4 hj v hv

/-- Hence `alter_detected` holds of the in-memory slice parser as well. -/
theorem slice_parser_same (bs : Bytes) : decodeSlice bs = decodeStream bs :=
  decodeSlice_eq_decodeStream bs

/-- The statement mentions no alteration: it is the inversion `decodeStream_ok_inv`.  Read for bytes whose
    *length* field was altered it says that the parser can succeed only if what it frames under the new length
    is again an encoded chunk, CRC included — an embedded CRC-consistent frame (DESIGN §7/C05). -/
theorem C05_length_partial (bs : Bytes) (c : Chunk) (r : Bytes)
    (h : decodeStream bs = .ok (c, r)) : bs = c.encode ++ r :=
  (decodeStream_ok_inv bs c r h).1.symm

/-- Non-vacuity: a concrete chunk, a concrete altered byte, and the parser's verdict. -/
example : decodeStream (be32 2 ++ ([70,68,65,84] ++ ([1, 3] ++ (be32 (Chunk.mk ChunkType.FDAT [1,2]).crc ++ []))))
    = .error .invalidData := by decide +kernel

example : (Chunk.mk ChunkType.FDAT [1,2]).data.length < 2 ^ 32 := by decide

end Pna.C05
