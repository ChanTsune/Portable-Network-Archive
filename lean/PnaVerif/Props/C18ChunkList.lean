import PnaVerif.Lemmas.ListFacts
import PnaVerif.Model.Cli.ChunkList
import PnaVerif.Lemmas.ArchiveRt
/-!
# C18 — the chunk offsets printed by the chunk listing equal real file offsets
Model: `Cli.chunkList` (transcription of `list_archive_chunks`).  For every chunk list and every index:
* `row_at` — row `i` carries index `i+1`, the chunk's type, its payload length, and the offset
  `8 + (length of the encodings of the chunks before it)`;
* `offset_is_real` — at exactly that offset of the file the encoding of chunk `i` begins, so a reader that
  seeks there and parses one chunk gets chunk `i` (`seek_and_parse`);
* `chunkList_written` — for every archive the writers produce the command succeeds and lists AHED, the
  entries' chunks, [ANXT], AEND;
* `hex_roundtrip` — the printed offset text (`{:#06x}`) denotes the offset: parsing its digits gives it back;
* `offsets_strictly_increase` — consecutive offsets differ by the full encoded length of the chunk between.
-/
namespace Pna.C18L
open Pna Pna.Cli

theorem go_length (idx off : Nat) (cs : List Chunk) : (chunkListGo idx off cs).length = cs.length := by
  induction cs generalizing idx off with
  | nil => rfl
  | cons c cs ih => simp [chunkListGo, ih]

theorem rows_length (cs : List Chunk) : (chunkListRows cs).length = cs.length := go_length _ _ cs

theorem go_at (idx off : Nat) (cs : List Chunk) (i : Nat) (hi : i < cs.length) :
    (chunkListGo idx off cs)[i]'(by rw [go_length]; exact hi)
      = ⟨idx + i + 1, cs[i].ty, cs[i].data.length, off + (encodeChunks (cs.take i)).length⟩ := by
  induction cs generalizing idx off i with
  | nil => simp at hi
  | cons c cs ih =>
    cases i with
    | zero => simp [chunkListGo, encodeChunks]
    | succ i =>
      simp only [chunkListGo, List.getElem_cons_succ, List.take_succ_cons]
      rw [ih (idx + 1) _ i (by simpa using hi), encodeChunks_cons, List.length_append, Chunk.encode_length]
      congr 1 <;> omega

theorem row_at (cs : List Chunk) (i : Nat) (hi : i < cs.length) :
    (chunkListRows cs)[i]'(by rw [rows_length]; exact hi)
      = ⟨i + 1, cs[i].ty, cs[i].data.length, (signature ++ encodeChunks (cs.take i)).length⟩ := by
  unfold chunkListRows
  rw [go_at 0 signature.length cs i hi, List.length_append]
  congr 1; omega

theorem offset_is_real (cs : List Chunk) (rest : Bytes) (i : Nat) (hi : i < cs.length) :
    (signature ++ encodeChunks cs ++ rest).drop ((chunkListRows cs)[i]'(by rw [rows_length]; exact hi)).off
      = cs[i].encode ++ (encodeChunks (cs.drop (i + 1)) ++ rest) := by
  rw [row_at cs i hi]
  conv => lhs; arg 2; rw [split_at_index cs i hi, encodeChunks_append, encodeChunks_cons]
  simp only [List.append_assoc]
  rw [← List.append_assoc signature, List.drop_left]

theorem seek_and_parse (cs : List Chunk) (rest : Bytes) (hfit : ChunksFit cs) (i : Nat) (hi : i < cs.length) :
    decodeStream ((signature ++ encodeChunks cs ++ rest).drop ((chunkListRows cs)[i]'(by rw [rows_length]; exact hi)).off)
      = .ok (cs[i], encodeChunks (cs.drop (i + 1)) ++ rest) := by
  rw [offset_is_real cs rest i hi]
  exact decodeStream_encode _ _ (hfit _ (List.getElem_mem hi))

theorem offsets_strictly_increase (cs : List Chunk) (i : Nat) (hi : i + 1 < cs.length) :
    ((chunkListRows cs)[i + 1]'(by rw [rows_length]; exact hi)).off
      = ((chunkListRows cs)[i]'(by rw [rows_length]; omega)).off + cs[i].encode.length := by
  rw [row_at cs (i + 1) hi, row_at cs i (by omega)]
  simp only [List.length_append]
  rw [List.take_succ_eq_append_getElem (by omega), encodeChunks_append, encodeChunks_singleton, List.length_append]
  omega

theorem chunkList_written (n : Nat) (items : List (List Chunk)) (hw : ∀ it ∈ items, ItemWF it)
    (hfit : ChunksFit items.flatten) (next : Bool) :
    chunkList (encodeArchive n items next)
      = .ok (chunkListRows (⟨ChunkType.AHED, encAHED ⟨0, 0, n⟩⟩ ::
          (items.flatten ++ (if next then [⟨ChunkType.ANXT, []⟩] else []) ++ [⟨ChunkType.AEND, []⟩]))) := by
  unfold chunkList
  rw [chunksStream_encodeArchive n items hw hfit next]

/-- a read error anywhere makes the command fail (nothing is listed from a damaged archive) -/
theorem chunkList_error (bs : Bytes) (e : Err) (h : (chunksStream bs).2 = .error e) : chunkList bs = .error e := by
  unfold chunkList
  rcases hcs : chunksStream bs with ⟨cs, st⟩
  rw [hcs] at h
  simp only at h
  subst h
  rfl

theorem hexDigit_toNat (d : Nat) (hd : d < 16) :
    (Cli.hexDigit d).toNat = if d < 10 then 48 + d else 87 + d := by
  have : ∀ d : Fin 16, (Cli.hexDigit d.val).toNat = if d.val < 10 then 48 + d.val else 87 + d.val := by
    decide
  exact this ⟨d, hd⟩

/-- the fold of `hexValue` from an arbitrary start value -/
def hexFrom (v : Nat) (cs : List Char) : Option Nat :=
  cs.foldl (fun acc c =>
    match acc with
    | none => none
    | some v =>
      let k := c.toNat
      if 48 ≤ k ∧ k ≤ 57 then some (v * 16 + (k - 48))
      else if 97 ≤ k ∧ k ≤ 102 then some (v * 16 + (k - 87))
      else none) (some v)

theorem hexValue_eq (cs : List Char) : hexValue cs = hexFrom 0 cs := rfl

theorem hexFrom_digit (v d : Nat) (hd : d < 16) (cs : List Char) :
    hexFrom v (Cli.hexDigit d :: cs) = hexFrom (v * 16 + d) cs := by
  unfold hexFrom
  simp only [List.foldl_cons, hexDigit_toNat d hd]
  by_cases h : d < 10
  · rw [if_pos h, if_pos ⟨Nat.le_add_right 48 d, by omega⟩, Nat.add_sub_cancel_left]
  · rw [if_neg h, if_neg (fun h' => by omega), if_pos ⟨by omega, by omega⟩, Nat.add_sub_cancel_left]

theorem hexValue_snoc (cs : List Char) (v d : Nat) (hd : d < 16) (h : hexValue cs = some v) :
    hexValue (cs ++ [Cli.hexDigit d]) = some (v * 16 + d) := by
  unfold hexValue at *
  rw [List.foldl_append, h]
  exact hexFrom_digit v d hd []

theorem hexFrom_digits (fuel n : Nat) (acc : List Char) (h : n < 16 ^ fuel) :
    hexFrom 0 (hexDigitsGo fuel n acc) = hexFrom n acc := by
  induction fuel generalizing n acc with
  | zero =>
    have : n = 0 := by simpa using h
    subst this; rfl
  | succ fuel ih =>
    unfold hexDigitsGo
    by_cases h0 : n = 0
    · rw [if_pos h0, h0]
    · rw [if_neg h0, ih (n / 16) _ (by rw [Nat.pow_succ] at h; omega),
        hexFrom_digit _ _ (Nat.mod_lt _ (by decide))]
      congr 1; omega

theorem hexFrom_zeros (k : Nat) (cs : List Char) : hexFrom 0 (List.replicate k '0' ++ cs) = hexFrom 0 cs := by
  induction k with
  | zero => rfl
  | succ k ih => exact (hexFrom_digit 0 0 (by decide) (List.replicate k '0' ++ cs)).trans ih

/-- `0x`, then digits whose value is the offset, at least four of them -/
theorem hex_roundtrip (n : Nat) :
    (hexOffset n).take 2 = ['0', 'x'] ∧ hexValue ((hexOffset n).drop 2) = some n ∧ 6 ≤ (hexOffset n).length := by
  refine ⟨rfl, ?_, ?_⟩
  · show hexValue (List.replicate _ '0' ++ hexDigits n) = some n
    rw [hexValue_eq, hexFrom_zeros]
    unfold hexDigits
    rw [hexFrom_digits (n + 1) n [] (Nat.lt_of_succ_lt (Nat.lt_pow_self (by decide)))]
    rfl
  · unfold hexOffset
    simp only [List.length_append, List.length_cons, List.length_nil, List.length_replicate]
    omega

-- non-vacuity: the listing of the empty archive (AHED at 8, AEND at 28), an offset text, a seek
example : (chunkList (encodeArchive 0 [] false)).map' (fun rows => rows.map (·.off)) = .ok [8, 28] := by decide +kernel
example : String.ofList (hexOffset 28) = "0x001c" ∧ String.ofList (hexOffset 74565) = "0x12345" := by decide
example : (chunkListRows [⟨ChunkType.FHED, [0,0,0,0,0,0,97]⟩, ⟨ChunkType.FDAT, [1,2,3]⟩, ⟨ChunkType.FEND, []⟩]).map (·.off) = [8, 27, 42] := by
  decide

end Pna.C18L
