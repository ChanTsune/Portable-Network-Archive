import PnaVerif.Lemmas.ListFacts
import PnaVerif.Lemmas.Multipart
import PnaVerif.Lemmas.Grouping
/-!
# C04 / C06 / C14 (multipart) — reading the parts in sequence = reading one archive holding the concatenated bodies

`pna split` / `create --split` cut an archive into part files; part `i` (0-based, the AHED carries `i`) is
signature, AHED(i), body_i, ANXT (on every part but the last), AEND.  An entry may be cut across parts; the
reader keeps the unfinished item in a carry buffer when it reaches AEND and continues it in the next part
(`readNextWith`, which also checks that the part number is the previous one + 1).

* `groupItems_append`       grouping a concatenation = grouping the first half, then continuing with its open
                            item and flag;
* `multipart_eq_concat`     for all part bodies (at most 2^32 of them, chunks below 4 GiB, no ANXT/AEND inside):
                            `readMultipartWith` on `encodeParts bodies` returns exactly the entries — and the first
                            parse error, if any — of one archive holding `bodies.flatten`
                            (`multipart_eq_single_archive`: in terms of `readArchiveStream`);
* `split_then_read_partial` what `writeSplit` produces satisfies these hypotheses (`body_chunks_from_entries`:
                            every chunk of a body is a chunk of the entries or a piece of one), except the bound
                            on the NUMBER of parts, which is an explicit hypothesis — see
                            `too_many_parts_unreadable`: 2^32 + 1 parts are written without complaint, the part
                            number wraps, and the sequence reader rejects the last part;
* `missing_last_part`       an incomplete sequence (last parts missing) returns the entries closed inside the
                            parts present and — if they parse — status ok: `readMultipartWith` alone does NOT
                            notice; what tells is the flag `next` of the last part read (`part_next_flag`:
                            `next = true` exactly on the parts that are not the last);
* `truncated_part`          a sequence whose last file is cut anywhere never ends ok (first parse error, else
                            `UnexpectedEof`), and its entries are a prefix of the complete sequence's.
-/
namespace Pna.C04M
open Pna

def BodiesClean (bodies : List (List Chunk)) : Prop :=
  ∀ b ∈ bodies, ∀ c ∈ b, c.ty ≠ ChunkType.ANXT ∧ c.ty ≠ ChunkType.AEND

/-- what one archive holding the chunk sequence `cs` reads as: the entries, and how reading ended -/
def readConcat (cs : List Chunk) : List ReadEntry × Outcome Unit :=
  ((parseItems (groupItems [] false cs).1).1,
    match (parseItems (groupItems [] false cs).1).2 with | .ok _ => .ok () | o => o)

theorem readConcat_eq (cs : List Chunk) : readConcat cs = parseGrouped [] cs := by
  unfold readConcat parseGrouped
  generalize parseItems (groupItems [] false cs).1 = p
  obtain ⟨es, o⟩ := p
  cases o <;> rfl

theorem BodiesClean.parts {bodies : List (List Chunk)} (h : BodiesClean bodies) : ∀ b ∈ bodies, NoPartMarkers b :=
  fun b hb c hc => h b hb c hc

theorem fit_parts {bodies : List (List Chunk)} (h : ChunksFit bodies.flatten) : ∀ b ∈ bodies, ChunksFit b :=
  fun b hb c hc => h c (List.mem_flatten.mpr ⟨b, hb, hc⟩)

theorem BodiesClean.partsOk {bodies : List (List Chunk)} (hno : BodiesClean bodies) (hlen : bodies.length ≤ 2 ^ 32)
    (hfit : ChunksFit bodies.flatten) : PartsOk 0 bodies :=
  ⟨by omega, fun b hb => ⟨fit_parts hfit b hb, hno.parts b hb⟩⟩

theorem encodeParts_length (bodies : List (List Chunk)) : (encodeParts bodies).length = bodies.length := by
  simp [encodeParts]

theorem encodeParts_getElem (bodies : List (List Chunk)) (i : Nat) (hi : i < bodies.length) :
    (encodeParts bodies)[i]'(by rw [encodeParts_length]; exact hi) = encodePartFile i bodies.length bodies[i] := by
  simp [encodeParts]

-- the running example: one FHED/FDAT/FEND entry cut across two bodies (the data chunk is cut, as `EntryPart::split`
-- does)

def exB0 : List Chunk := [⟨ChunkType.FHED, [0, 0, 0, 0, 0, 0, 97]⟩, ⟨ChunkType.FDAT, [7, 7]⟩]
def exB1 : List Chunk := [⟨ChunkType.FDAT, [8]⟩, ⟨ChunkType.FEND, []⟩]
def exBodies : List (List Chunk) := [exB0, exB1]
def exEntry : ReadEntry :=
  .normal { header := ⟨0, 0, 0, 0, 0, 0, [97]⟩, phsf := none, extra := [], data := [[7, 7], [8]],
            md := {}, xattrs := [] }

theorem ex_fit : ChunksFit exBodies.flatten := by decide
theorem ex_clean : BodiesClean exBodies := by
  unfold BodiesClean; decide
theorem ex_len : exBodies.length ≤ 2 ^ 32 := by decide

/-- `groupItems_append_proj` in `let` form -/
theorem groupItems_append (cur : List Chunk) (nx : Bool) (xs ys : List Chunk)
    (hx : ∀ c ∈ xs, c.ty ≠ ChunkType.AEND) :
    groupItems cur nx (xs ++ ys)
      = (let (is₁, l₁, n₁, _) := groupItems cur nx xs
         let (is₂, l₂, n₂, e₂) := groupItems l₁ n₁ ys
         (is₁ ++ is₂, l₂, n₂, e₂)) := by
  rw [groupItems_append_proj xs ys hx]

-- the first body leaves the whole of itself as open item; the second closes it
example : (∀ c ∈ exB0, c.ty ≠ ChunkType.AEND) ∧ groupItems [] false exB0 = ([], exB0, false, false) ∧
    groupItems exB0 false exB1 = ([exB0 ++ exB1], [], false, false) ∧
    groupItems [] false (exB0 ++ exB1) = ([exB0 ++ exB1], [], false, false) := by decide

/-- the hypothesis `hx` of `groupItems_append` is needed: grouping stops at AEND -/
example : groupItems [] false ([⟨ChunkType.AEND, []⟩] ++ [⟨ChunkType.FEND, []⟩])
    ≠ (let (is₁, l₁, n₁, _) := groupItems [] false [⟨ChunkType.AEND, []⟩]
       let (is₂, l₂, n₂, e₂) := groupItems l₁ n₁ [⟨ChunkType.FEND, []⟩]
       (is₁ ++ is₂, l₂, n₂, e₂)) := by decide

/-- The first part is read with `readArchiveWith` (its number is not checked), every later one with `readNextWith` and
    the header number of the part before.  The parse-error case coincides too: both readers return the entries before
    the first item that fails and that item's error (a part is only opened when the one before ended ok).
    `bodies ≠ []` is not needed (both sides are `([], ok)`), and `≤ 2^32` parts suffice (numbers `0 … 2^32-1`);
    beyond that the statement is false, see `too_many_parts_unreadable`. -/
theorem multipart_eq_concat (bodies : List (List Chunk)) (hlen : bodies.length ≤ 2 ^ 32)
    (hfit : ChunksFit bodies.flatten) (hno : BodiesClean bodies) :
    readMultipartWith chunksStream true 0 [] (encodeParts bodies)
      = ((parseItems (groupItems [] false bodies.flatten).1).1,
          match (parseItems (groupItems [] false bodies.flatten).1).2 with | .ok _ => .ok () | o => o) := by
  show _ = readConcat bodies.flatten
  rw [readConcat_eq, encodeParts_eq]
  exact multipart_parts bodies.length (hno.partsOk hlen hfit) true 0 [] (Or.inl rfl)

example : readMultipartWith chunksStream true 0 [] (encodeParts exBodies) = ([exEntry], .ok ()) := by
  decide +kernel
example : readMultipartWith chunksStream true 0 [] (encodeParts exBodies) = readConcat exBodies.flatten :=
  multipart_eq_concat exBodies ex_len ex_fit ex_clean
-- the two part files really differ from one archive: each has its own signature, AHED, AEND
example : (encodeParts exBodies).map List.length = [85, 65] := by decide +kernel

/-- the one archive holding all the bodies: `archiveBytes 0 bodies.flatten` -/
def concatArchive (bodies : List (List Chunk)) : Bytes :=
  signature ++ encodeChunks ([⟨ChunkType.AHED, encAHED ⟨0, 0, 0⟩⟩] ++ bodies.flatten ++ [⟨ChunkType.AEND, []⟩])

/-- `multipart_eq_concat` in terms of the single-archive reader -/
theorem multipart_eq_single_archive (bodies : List (List Chunk)) (hlen : bodies.length ≤ 2 ^ 32)
    (hfit : ChunksFit bodies.flatten) (hno : BodiesClean bodies) :
    readMultipartWith chunksStream true 0 [] (encodeParts bodies)
      = ((readArchiveStream (concatArchive bodies)).entries, (readArchiveStream (concatArchive bodies)).status) := by
  have e : readArchiveStream (concatArchive bodies) = _ :=
    readArchiveWith_archiveBytes 0 (by decide) bodies.flatten hfit
      (NoPartMarkers.flatten hno.parts).noAEND []
  rw [multipart_eq_concat bodies hlen hfit hno, e]
  exact readConcat_eq bodies.flatten

example : (readArchiveStream (concatArchive exBodies)).entries = [exEntry] ∧
    (readArchiveStream (concatArchive exBodies)).status = .ok () := by decide +kernel

/-- from `splitGo` / `splitPart` / `placeParts`: chunks are moved whole, or a stream chunk is cut in two -/
theorem body_chunks_from_entries (entries : List (List Chunk)) (maxFile : Nat) (bodies : List (List Chunk))
    (h : writeSplit entries maxFile = .ok bodies) :
    ∀ b ∈ bodies, ∀ c ∈ b, ∃ e ∈ entries, ∃ d ∈ e, c.ty = d.ty ∧ c.data.length ≤ d.data.length := by
  intro b hb c hc
  obtain ⟨d, hd, h1, h2⟩ := (writeSplit_ok_spec h).cut.2 c (List.mem_flatten.mpr ⟨b, hb, hc⟩)
  obtain ⟨e, he, hde⟩ := List.mem_flatten.mp hd
  exact ⟨e, he, d, hde, h1, h2⟩

/-- `split`, then read the parts in sequence: the bodies `writeSplit` produces from complete items meet the
    hypotheses of `multipart_eq_concat`, and `bodies.flatten` is the original chunk sequence up to the cutting of data
    chunks.  `_partial`: the bound on the NUMBER of parts (`hlen`) does not follow from `writeSplit` succeeding and
    is an explicit hypothesis; without it the statement is false (`too_many_parts_unreadable`). -/
theorem split_then_read_partial (entries : List (List Chunk)) (maxFile : Nat) (bodies : List (List Chunk))
    (h : writeSplit entries maxFile = .ok bodies) (hw : ∀ e ∈ entries, ItemWF e)
    (hfit : ChunksFit entries.flatten) (hlen : bodies.length ≤ 2 ^ 32) :
    bodies ≠ [] ∧ ChunksFit bodies.flatten ∧ BodiesClean bodies ∧
    readMultipartWith chunksStream true 0 [] (encodeParts bodies)
      = ((parseItems (groupItems [] false bodies.flatten).1).1,
          match (parseItems (groupItems [] false bodies.flatten).1).2 with | .ok _ => .ok () | o => o) ∧
    streamView bodies.flatten = streamView entries.flatten := by
  obtain ⟨h1, h2⟩ := writeSplit_bodies_ok entries maxFile bodies h hw hfit
  have hclean : BodiesClean bodies := fun b hb c hc => h2 c (List.mem_flatten.mpr ⟨b, hb, hc⟩)
  exact ⟨(writeSplit_ok_spec h).ne_nil, h1, hclean, multipart_eq_concat bodies hlen h1 hclean,
    (writeSplit_ok_spec h).cut.1⟩

def exItem : List Chunk :=
  [⟨ChunkType.FHED, [0, 0, 0, 0, 0, 0, 97]⟩, ⟨ChunkType.FDAT, List.replicate 40 7⟩, ⟨ChunkType.FEND, []⟩]

theorem exItem_wf : ItemWF exItem := by decide

/-- an 83-byte item split at 100 bytes per file: two bodies, the FDAT chunk cut 17 + 23 -/
def exSplitBodies : List (List Chunk) :=
  [[⟨ChunkType.FHED, [0, 0, 0, 0, 0, 0, 97]⟩, ⟨ChunkType.FDAT, List.replicate 17 7⟩],
   [⟨ChunkType.FDAT, List.replicate 23 7⟩, ⟨ChunkType.FEND, []⟩]]
theorem ex_split : writeSplit [exItem] 100 = .ok exSplitBodies := by decide +kernel
example := split_then_read_partial [exItem] 100 exSplitBodies ex_split
  (fun e he => by rw [List.mem_singleton.mp he]; exact exItem_wf) (by decide) (by decide)
example := body_chunks_from_entries [exItem] 100 exSplitBodies ex_split
example : (readMultipartWith chunksStream true 0 [] (encodeParts exSplitBodies)).2 = .ok () ∧
    (readMultipartWith chunksStream true 0 [] (encodeParts exSplitBodies)).1.length = 1 := by decide +kernel

/-- the flag `next` of a part read (as first part, or as the part that is due) is what tells the caller that more
    parts must follow -/
theorem part_next_flag (bodies : List (List Chunk)) (hlen : bodies.length ≤ 2 ^ 32)
    (hfit : ChunksFit bodies.flatten) (hno : BodiesClean bodies) (i : Nat) (hi : i < bodies.length)
    (carry : List Chunk) :
    (readArchiveWith chunksStream carry ((encodeParts bodies)[i]'(by rw [encodeParts_length]; exact hi))).next
      = decide (i + 1 < bodies.length) ∧
    ∀ pn, pn + 1 = i →
      (readNextWith chunksStream pn carry ((encodeParts bodies)[i]'(by rw [encodeParts_length]; exact hi))).next
        = decide (i + 1 < bodies.length) := by
  have hb := Nat.zero_add i ▸ (hno.partsOk hlen hfit).getElem i hi
  rw [encodeParts_getElem bodies i hi]
  refine ⟨?_, fun pn hpn => ?_⟩
  · rw [readArchiveWith_partFile i _ hb carry]
  · rw [readNextWith_partFile i _ hb carry pn hpn, readArchiveWith_partFile i _ hb carry]

/-- Only the first `p` of the parts are there.  The reader model iterates over the parts it is given, so it returns
    the entries closed inside the first `p` bodies and the status of parsing them: `readMultipartWith` does not
    notice the missing parts (the unfinished item in the carry buffer is dropped silently).  The last part read
    reports `next = true`, the last part of the complete sequence `next = false`: that flag is the only thing
    distinguishing the two. -/
theorem missing_last_part (bodies : List (List Chunk)) (hlen : bodies.length ≤ 2 ^ 32)
    (hfit : ChunksFit bodies.flatten) (hno : BodiesClean bodies) (p : Nat) (hp0 : 0 < p) (hp : p < bodies.length) :
    readMultipartWith chunksStream true 0 [] ((encodeParts bodies).take p) = readConcat (bodies.take p).flatten ∧
    (readMultipartWith chunksStream true 0 [] ((encodeParts bodies).take p)).1
      <+: (readMultipartWith chunksStream true 0 [] (encodeParts bodies)).1 ∧
    (∀ carry, (readArchiveWith chunksStream carry
        ((encodeParts bodies)[p - 1]'(by rw [encodeParts_length]; omega))).next = true) ∧
    (∀ carry, (readArchiveWith chunksStream carry
        ((encodeParts bodies)[bodies.length - 1]'(by rw [encodeParts_length]; omega))).next = false) := by
  have hok := (hno.partsOk hlen hfit).take p
  have h1 : readMultipartWith chunksStream true 0 [] ((encodeParts bodies).take p)
      = parseGrouped [] (bodies.take p).flatten := by
    rw [encodeParts_eq, partsFrom_take]
    exact multipart_parts bodies.length hok true 0 [] (Or.inl rfl)
  refine ⟨by rw [h1, readConcat_eq], ?_, fun carry => ?_, fun carry => ?_⟩
  · rw [h1, multipart_eq_concat bodies hlen hfit hno]
    show _ <+: (readConcat bodies.flatten).1
    rw [readConcat_eq, flatten_take_drop bodies p]
    exact parseGrouped_prefix [] _ _ hok.flatten_clean
  · rw [(part_next_flag bodies hlen hfit hno (p - 1) (by omega) carry).1]
    simp only [decide_eq_true_eq]; omega
  · rw [(part_next_flag bodies hlen hfit hno (bodies.length - 1) (by omega) carry).1]
    simp only [decide_eq_false_iff_not]; omega

-- only the first of the two example parts: no entry, status ok (!), but `next = true`;
-- the second part, read with the first one's carry buffer, closes the entry and has `next = false`
example : readMultipartWith chunksStream true 0 [] ((encodeParts exBodies).take 1) = ([], .ok ()) ∧
    (readArchiveWith chunksStream [] (encodeParts exBodies)[0]).next = true ∧
    (readArchiveWith chunksStream [] (encodeParts exBodies)[0]).carry = exB0 ∧
    (readNextWith chunksStream 0 exB0 (encodeParts exBodies)[1]).next = false ∧
    (readNextWith chunksStream 0 exB0 (encodeParts exBodies)[1]).entries = [exEntry] := by
  have f0 : PartOk 0 exB0 := (ex_clean.partsOk ex_len ex_fit).getElem 0 (by decide)
  have f1 : PartOk 1 exB1 := (ex_clean.partsOk ex_len ex_fit).getElem 1 (by decide)
  rw [(missing_last_part exBodies ex_len ex_fit ex_clean 1 (by decide) (by decide)).1,
    show (encodeParts exBodies)[0] = encodePartFile 0 2 exB0 from rfl,
    show (encodeParts exBodies)[1] = encodePartFile 1 2 exB1 from rfl,
    readArchiveWith_partFile 0 2 f0, readNextWith_partFile 1 2 f1 _ 0 rfl, readArchiveWith_partFile 1 2 f1]
  decide +kernel
-- the hypotheses of `missing_last_part` on the example: 2 parts, only the first one present
example := missing_last_part exBodies ex_len ex_fit ex_clean 1 (by decide) (by decide)
example := part_next_flag exBodies ex_len ex_fit ex_clean 1 (by decide) exB0
-- a part presented out of order is rejected
example : (readNextWith chunksStream 0 [] (encodeParts exBodies)[0]).status = .error .invalidData := by
  rw [show (encodeParts exBodies)[0] = encodePartFile 0 2 exB0 from rfl,
    readNextWith_partFile_wrong 0 2 (body := exB0) ((ex_clean.partsOk ex_len ex_fit).getElem 0 (by decide)) [] 0
      (by decide)]

/-- The sequence is interrupted inside part file `p`, at any byte `k` (signature, AHED, a body chunk, ANXT, AEND).
    `pre`: the chunks of body `p` complete before the cut.  The reader returns what one archive holding the first
    `p` bodies and `pre` would give, except that the end is never clean (`cutOut`: the first parse error, else
    `UnexpectedEof`); the other three conjuncts follow from that. -/
theorem truncated_part (bodies : List (List Chunk)) (hlen : bodies.length ≤ 2 ^ 32)
    (hfit : ChunksFit bodies.flatten) (hno : BodiesClean bodies) (p : Nat) (hp : p < bodies.length) (k : Nat)
    (hk : k < ((encodeParts bodies)[p]'(by rw [encodeParts_length]; exact hp)).length) :
    ∃ pre, pre <+: bodies[p] ∧
      readMultipartWith chunksStream true 0 []
          ((encodeParts bodies).take p ++ [((encodeParts bodies)[p]'(by rw [encodeParts_length]; exact hp)).take k])
        = cutOut (readConcat ((bodies.take p).flatten ++ pre)) ∧
      (∀ u, (readMultipartWith chunksStream true 0 []
          ((encodeParts bodies).take p ++ [((encodeParts bodies)[p]'(by rw [encodeParts_length]; exact hp)).take k])).2
        ≠ .ok u) ∧
      (readMultipartWith chunksStream true 0 []
          ((encodeParts bodies).take p ++ [((encodeParts bodies)[p]'(by rw [encodeParts_length]; exact hp)).take k])).1
        <+: (readMultipartWith chunksStream true 0 [] (encodeParts bodies)).1 ∧
      ((readMultipartWith chunksStream true 0 [] (encodeParts bodies)).2 = .ok () →
        (readMultipartWith chunksStream true 0 []
          ((encodeParts bodies).take p ++ [((encodeParts bodies)[p]'(by rw [encodeParts_length]; exact hp)).take k])).2
          = .error .eof) := by
  have hok := hno.partsOk hlen hfit
  have hbp := Nat.zero_add p ▸ hok.getElem p hp
  have hF := (hok.take p).flatten_clean
  have hlt : (bodies.take p).length = p := by rw [List.length_take]; omega
  rw [encodeParts_getElem bodies p hp] at hk
  obtain ⟨pre, hpre, H⟩ := multipart_cut_single p bodies.length hbp k hk
  obtain ⟨t, ht⟩ := hpre
  have hFp : NoPartMarkers ((bodies.take p).flatten ++ pre) :=
    hF.append (NoPartMarkers.left (b := t) (by rw [ht]; exact hbp.clean))
  have hread : readMultipartWith chunksStream true 0 []
      ((encodeParts bodies).take p ++ [((encodeParts bodies)[p]'(by rw [encodeParts_length]; exact hp)).take k])
        = cutOut (parseGrouped [] ((bodies.take p).flatten ++ pre)) := by
    rw [encodeParts_getElem bodies p hp, encodeParts_eq, partsFrom_take]
    -- the reader's state after the first `p` parts is due for part `p`
    have hdue : (true && (bodies.take p).isEmpty) = true ∨
        (if bodies.take p = [] then 0 else 0 + (bodies.take p).length - 1) + 1 = p := by
      simpa [hlt] using multipart_run_due (bodies.take p) (Or.inl rfl : true = true ∨ 0 + 1 = 0)
    rw [multipart_run bodies.length [(encodePartFile p bodies.length bodies[p]).take k] (bodies.take p) 0 (hok.take p)
      true 0 [] (Or.inl rfl),
      H _ _ _ hdue,
      seqOut_cutOut, ← parseGrouped_append _ _ _ hF]
  -- the complete sequence, seen as "up to the cut" followed by the rest
  have hfull : readMultipartWith chunksStream true 0 [] (encodeParts bodies)
      = seqOut (parseGrouped [] ((bodies.take p).flatten ++ pre))
          (parseGrouped (carryAfter [] ((bodies.take p).flatten ++ pre)) (t ++ (bodies.drop (p + 1)).flatten)) := by
    rw [multipart_eq_concat bodies hlen hfit hno]
    show readConcat bodies.flatten = _
    rw [readConcat_eq, ← parseGrouped_append _ _ _ hFp, flatten_split_at bodies p hp, ← ht]
    simp only [List.append_assoc]
  refine ⟨pre, ⟨t, ht⟩, by rw [hread, readConcat_eq], fun u => ?_, ?_, fun hok => ?_⟩
  · rw [hread]; exact cutOut_not_ok _ u
  · rw [hread, hfull, cutOut_fst]; exact seqOut_fst_prefix _ _
  · -- the complete sequence ends ok, so what precedes the cut parsed: the cut-off end is `UnexpectedEof`
    rw [hfull] at hok
    rw [hread]
    generalize parseGrouped [] ((bodies.take p).flatten ++ pre) = pg at hok ⊢
    obtain ⟨es, _ | e | s⟩ := pg
    · rfl
    · cases hok
    · cases hok

-- the second example part cut in the middle of its FDAT chunk, and the first one cut inside its AEND:
-- no entry, `UnexpectedEof`
example : (encodeParts exBodies)[1].length = 65 ∧
    readMultipartWith chunksStream true 0 [] ((encodeParts exBodies).take 1 ++ [(encodeParts exBodies)[1].take 35])
      = ([], .error .eof) ∧
    readMultipartWith chunksStream true 0 [] ((encodeParts exBodies).take 0 ++ [(encodeParts exBodies)[0].take 84])
      = ([], .error .eof) := by decide +kernel
-- the hypotheses of `truncated_part` on the example: part 1 cut at byte 35 of 65
example := truncated_part exBodies ex_len ex_fit ex_clean 1 (by decide) 35 (by decide +kernel)
-- cut inside the AEND of the last part: the entry is complete and returned, but the end is not clean
example : readMultipartWith chunksStream true 0 [] ((encodeParts exBodies).take 1 ++ [(encodeParts exBodies)[1].take 64])
    = ([exEntry], .error .eof) := by decide +kernel

-- the parse-error case of `multipart_eq_concat`, concretely: an item that does not parse (it starts with FDAT) after a
-- good one, cut across the two parts: both readers return the good entry and then the item's error
def exBad0 : List Chunk := [⟨ChunkType.FHED, [0, 0, 0, 0, 0, 0, 97]⟩, ⟨ChunkType.FEND, []⟩, ⟨ChunkType.FDAT, [1]⟩]
def exBad1 : List Chunk := [⟨ChunkType.FEND, []⟩, ⟨ChunkType.FHED, [0, 0, 0, 0, 0, 0, 97]⟩, ⟨ChunkType.FEND, []⟩]
example : (readMultipartWith chunksStream true 0 [] (encodeParts [exBad0, exBad1])).1.length = 1 ∧
    (readMultipartWith chunksStream true 0 [] (encodeParts [exBad0, exBad1])).2 = .error .invalidData ∧
    readMultipartWith chunksStream true 0 [] (encodeParts [exBad0, exBad1]) = readConcat [exBad0, exBad1].flatten := by
  decide +kernel

/-- a 31-byte item: FHED "a", FEND -/
def exSmall : List Chunk := [⟨ChunkType.FHED, [0, 0, 0, 0, 0, 0, 97]⟩, ⟨ChunkType.FEND, []⟩]

theorem exSmall_wf : ItemWF exSmall := by decide
theorem exSmall_fit : ChunksFit exSmall := by decide
theorem exSmall_clean : NoPartMarkers exSmall := exSmall_wf.clean

theorem exSmall_first : splitToParts exSmall (31 - 0) 31 = .ok [exSmall] := by decide +kernel
theorem exSmall_later : splitToParts exSmall (31 - 31) 31 = .ok [[], exSmall] := by decide +kernel

/-- with 83-byte files every such item fills a part: after the first one, each item closes the open part -/
theorem splitEntries_exSmall (m : Nat) : ∀ cl : List (List Chunk),
    splitEntries 31 ⟨cl, exSmall, 31⟩ (List.replicate m exSmall) = .ok ⟨cl ++ List.replicate m exSmall, exSmall, 31⟩ := by
  induction m with
  | zero => intro cl; simp [splitEntries]
  | succ m ih =>
    intro cl
    rw [List.replicate_succ, splitEntries_cons]
    simp only [exSmall_later]
    have hp : placeParts 31 ⟨cl, exSmall, 31⟩ [[], exSmall] = ⟨cl ++ [exSmall], exSmall, 31⟩ := by
      have h31 : partLen exSmall = 31 := by decide
      simp [placeParts, h31]
    rw [hp, ih]
    simp

theorem writeSplit_exSmall (m : Nat) :
    writeSplit (List.replicate (m + 1) exSmall) 83 = .ok (List.replicate (m + 1) exSmall) := by
  have h0 : placeParts 31 {} [exSmall] = ⟨[], exSmall, 31⟩ := by
    have h31 : partLen exSmall = 31 := by decide
    simp [placeParts, h31]
  have hs : splitEntries 31 {} (List.replicate (m + 1) exSmall) = .ok ⟨List.replicate m exSmall, exSmall, 31⟩ := by
    rw [List.replicate_succ, splitEntries_cons]
    simp only [exSmall_first]
    rw [h0, splitEntries_exSmall]
    simp
  rw [writeSplit, if_neg (by decide)]
  simp only [show 83 - splitOverhead = 31 from rfl, hs]
  rw [List.replicate_succ']

theorem parseGrouped_exSmall (m : Nat) : (parseGrouped [] (List.replicate m exSmall).flatten).2 = .ok () := by
  induction m with
  | zero => rfl
  | succ m ih =>
    have h1 : (parseGrouped [] exSmall).2 = .ok () := by decide +kernel
    have h2 : carryAfter [] exSmall = [] := by decide +kernel
    rw [List.replicate_succ, List.flatten_cons, parseGrouped_append _ _ _ exSmall_clean, h2]
    generalize parseGrouped [] exSmall = pg at h1 ⊢
    obtain ⟨es, o⟩ := pg
    cases h1
    exact ih

/-- the number of part `2^32` wraps to 0 in the 32-bit field of AHED -/
theorem encAHED_wrap : encAHED ⟨0, 0, 2 ^ 32⟩ = encAHED ⟨0, 0, 0⟩ := by decide +kernel

/-- the part after number `2^32 - 1` is rejected by the number check: its header says 0 -/
theorem part_2_32_rejected (m : Nat) (hm : m + 1 = 2 ^ 32) (c : List Chunk) :
    readMultipartWith chunksStream false m c [encodePartFile (m + 1) (m + 2) exSmall]
      = cutOut ([], .error .invalidData) := by
  have e : encodePartFile (m + 1) (m + 2) exSmall = encodePartFile 0 1 exSmall := by
    unfold encodePartFile
    rw [if_neg (by omega : ¬ (m + 1 + 1 < m + 2)), if_neg (by decide : ¬ (0 + 1 < 1)), hm, encAHED_wrap]
  rw [e, readMultipartWith]
  simp only [Bool.false_eq_true, if_false]
  rw [readNextWith_partFile_wrong 0 1 ⟨by decide, exSmall_fit, exSmall_clean⟩ c m (by omega)]
  rfl

/-- **`writeSplit` writes more than 2^32 parts without complaint, and the result cannot be read back**:
    2^32 + 1 complete 31-byte items at 83 bytes per file give 2^32 + 1 parts; all hypotheses of
    `split_then_read_partial` except the bound on the number of parts hold; one archive holding the same chunks
    reads ok, but in the sequence the number of the last part has wrapped to 0 and `read_next_archive` rejects it.
    So the bound `hlen` of `multipart_eq_concat` / `split_then_read_partial` (`≤ 2^32`) cannot be dropped, and it is
    sharp. -/
theorem too_many_parts_unreadable :
    ∃ (entries : List (List Chunk)) (maxFile : Nat) (bodies : List (List Chunk)),
      writeSplit entries maxFile = .ok bodies ∧ (∀ e ∈ entries, ItemWF e) ∧ ChunksFit entries.flatten ∧
      bodies.length = 2 ^ 32 + 1 ∧ ChunksFit bodies.flatten ∧ BodiesClean bodies ∧
      (readConcat bodies.flatten).2 = .ok () ∧
      (readMultipartWith chunksStream true 0 [] (encodeParts bodies)).2 ≠ .ok () ∧
      readMultipartWith chunksStream true 0 [] (encodeParts bodies) ≠ readConcat bodies.flatten := by
  obtain ⟨m, hm⟩ : ∃ m, m + 1 = 2 ^ 32 := ⟨2 ^ 32 - 1, by decide⟩
  have hmem : ∀ x ∈ List.replicate (m + 1 + 1) exSmall, x = exSmall := fun x hx => List.eq_of_mem_replicate hx
  have hfit : ChunksFit (List.replicate (m + 1 + 1) exSmall).flatten := by
    intro c hc
    obtain ⟨x, hx, hcx⟩ := List.mem_flatten.mp hc
    rw [hmem x hx] at hcx
    exact exSmall_fit c hcx
  have hclean : BodiesClean (List.replicate (m + 1 + 1) exSmall) := by
    intro x hx c hc
    rw [hmem x hx] at hc
    exact exSmall_clean c hc
  have hconcat : (readConcat (List.replicate (m + 1 + 1) exSmall).flatten).2 = .ok () := by
    rw [readConcat_eq]; exact parseGrouped_exSmall _
  have hseq : (readMultipartWith chunksStream true 0 [] (encodeParts (List.replicate (m + 1 + 1) exSmall))).2
      ≠ .ok () := by
    have hrun : PartsOk 0 (List.replicate (m + 1) exSmall) :=
      ⟨by rw [List.length_replicate]; omega, fun x hx => List.eq_of_mem_replicate hx ▸ ⟨exSmall_fit, exSmall_clean⟩⟩
    rw [encodeParts_eq, List.length_replicate, List.replicate_succ' (n := m + 1), partsFrom_append, partsFrom_cons, partsFrom_nil,
      multipart_run (m + 1 + 1) _ _ 0 hrun true 0 [] (Or.inl rfl), if_neg (by simp), List.length_replicate,
      show (true && (List.replicate (m + 1) exSmall).isEmpty) = false by simp,
      show 0 + (m + 1) - 1 = m by omega, Nat.zero_add, part_2_32_rejected m hm]
    rw [seqOut_cutOut]
    exact cutOut_not_ok _ ()
  refine ⟨List.replicate (m + 1 + 1) exSmall, 83, List.replicate (m + 1 + 1) exSmall, writeSplit_exSmall (m + 1),
    fun e he => by rw [hmem e he]; exact exSmall_wf, hfit, by rw [List.length_replicate]; omega, hfit, hclean,
    hconcat, hseq, fun h => hseq (by rw [h]; exact hconcat)⟩

end Pna.C04M
