import PnaVerif.Lemmas.CapstoneRt
import PnaVerif.Lemmas.CapstoneEx
/-!
# C01 (capstone) — whatever is written with any writer, codec and cipher reads back identically

The pieces proved elsewhere — the data pipeline (`C01.roundtrip_builder`, `C01.roundtrip_stream`, `C01.readData_recut`),
the entry codecs (`parseN_serN`, `parseS_serS`, `recut_meaning`), the archive framing (`readArchive_encode`) and the
inside of a solid block (`solidEntries_append`, of which `C07S.solid_roundtrip` is the case of nothing following) —
composed into one statement about whole archives.

The write model and the read model are in `Lemmas/Capstone.lean`; they are assembled only from the existing model
functions.  `writeArchive items` are the bytes of a single-part archive whose top-level items are normal entries
(`LItem.file`) and solid blocks (`LItem.block`), each with its own writer (`Sink`), codec, cipher, key and IV
(`StreamCfg`).  `readAll cfgOf bytes` runs the archive reader, opens every normal entry, expands every solid block
and opens its inner entries.

`archive_roundtrip` is read ∘ write = id; `archive_entries_exact` is its intermediate level (the entries the reader
returns are the entries written, data re-cut at `u32::MAX` only), `archive_roundtrip_builder` / `_stream` state the
hypotheses per writer, `partition_independent*` say that the read-back does not depend on how the content was cut
into `write` calls.  `ex_*`: a concrete archive (`Lemmas/CapstoneEx.lean`), by instantiating the theorem and by
evaluation.

Hypotheses: `LItem.WF` = `StreamCfg.OK` (lawful block permutation, lawful codec, 16-byte IV, UTF-8 PHSF that fits a
chunk, valid header codes) + `LFile.WF` (primitive conditions on name/kind/metadata/xattrs/extra) + for a solid block
that its stored slices fit one SDAT chunk each (automatic with the builder sink).  What is *not* covered: key
derivation from a password (the reader is handed the configuration — C16), multipart archives
(`Props/C01Multipart.lean`), and the third-party codecs and ciphers themselves (parameters with their laws).
-/
namespace Pna.C01A
open Pna Pna.Capstone

/-- The entries the archive reader returns are the entries written — header codes and PHSF included — with the
    data slices of normal entries re-cut at `u32::MAX`; the iteration ends cleanly, no continuation, no carry. -/
theorem archive_entries_exact (items : List LItem) (hw : ∀ it ∈ items, it.WF) :
    let r := readArchiveStream (writeArchive items)
    r.entries = (items.map toReadEntry).map ReadEntry.recut ∧ r.status = .ok () ∧ r.next = false ∧
      r.carry = [] ∧ r.header = some ⟨0, 0, 0⟩ := by
  obtain ⟨hwf, hnm, hfit⟩ := written_entries_ok items hw
  have h := readArchive_encode 0 (by decide) (items.map toReadEntry) hwf hnm hfit false
  exact ⟨h.1, h.2.1, h.2.2.1, h.2.2.2.1, h.2.2.2.2.1⟩

/-- The parameters the real reader takes from the archive are there: every returned entry records the codec code,
    cipher code, cipher mode and PHSF string of the configuration it was written with, and the cipher selection is a
    function of the two header bytes.  (What the reader of this model is *handed* beyond that — the algorithms behind
    the codes and the key behind PHSF + password — is third-party.) -/
theorem archive_params_recorded (items : List LItem) (hw : ∀ it ∈ items, it.WF) :
    (readArchiveStream (writeArchive items)).entries.map entryParams = items.map (fun it => it.cfg.params) ∧
    ∀ it ∈ items, selOfHeader it.cfg.encryption it.cfg.cipherMode = it.cfg.sel := by
  refine ⟨?_, ?_⟩
  · rw [(archive_entries_exact items hw).1, List.map_map, List.map_map]
    apply List.map_congr_left
    intro it _
    cases it <;> rfl
  · intro it hit
    have hc : it.cfg.OK := by
      cases it <;> exact (hw _ hit).1
    exact selOfHeader_cfg it.cfg hc

/-- **C01, end to end.**  For every list of well-formed items — any mix of normal entries and solid blocks, each with
    its own writer, codec, cipher, key, IV — reading the written archive with the configurations it was written with
    succeeds, ends cleanly, and returns in order, for every file of every item (block files in place), its name,
    kind, metadata, extended attributes, extra chunks and exactly the bytes written. -/
theorem archive_roundtrip (items : List LItem) (hw : ∀ it ∈ items, it.WF) (cfgOf : Nat → StreamCfg)
    (hcfg : ∀ i (h : i < items.length), cfgOf i = items[i].cfg) :
    readAll cfgOf (writeArchive items)
      = { files := (items.flatMap LItem.files).map
            (fun f => .ok ⟨f.name, f.kind, f.md, f.xattrs, f.extra, f.writes.flatten⟩),
          status := .ok (), next := false } := by
  obtain ⟨he, hs, hn, _, _⟩ := archive_entries_exact items hw
  unfold readAll
  simp only
  rw [he, hs, hn, openAll_items items hw cfgOf hcfg]
  rfl

/-- the same with the reader's configurations spelled out: those of the items, by position -/
theorem archive_roundtrip_own (items : List LItem) (hw : ∀ it ∈ items, it.WF) :
    readAll (cfgsOf items) (writeArchive items)
      = { files := (items.flatMap LItem.files).map (fun f => .ok f.out), status := .ok (), next := false } :=
  archive_roundtrip items hw (cfgsOf items) (cfgsOf_spec items)

/-- Builder-only archives (`EntryBuilder`, `SolidEntryBuilder` — `buildData`): the hypotheses are purely about the
    configurations and the logical files. -/
theorem archive_roundtrip_builder (items : List LItem) (hb : ∀ it ∈ items, it.sink = .builder)
    (hc : ∀ it ∈ items, it.cfg.OK) (hf : ∀ it ∈ items, ∀ f ∈ it.files, f.WF) :
    readAll (cfgsOf items) (writeArchive items)
      = { files := (items.flatMap LItem.files).map (fun f => .ok f.out), status := .ok (), next := false } :=
  archive_roundtrip_own items (fun it hit => LItem.WF_builder it (hb it hit) (hc it hit) (hf it hit))

/-- **Streaming writers** (`Archive::write_file`, `SolidArchive` — `streamData`, via `C01.roundtrip_stream`): the same
    statement.  A streamed solid block stores one SDAT chunk per inner write of the cipher stage, so these writes
    must fit a chunk (`hfit`); nothing is asked for streamed normal entries. -/
theorem archive_roundtrip_stream (items : List LItem) (hs : ∀ it ∈ items, it.sink = .stream)
    (hc : ∀ it ∈ items, it.cfg.OK) (hf : ∀ it ∈ items, ∀ f ∈ it.files, f.WF)
    (hfit : ∀ cfg fs, LItem.block .stream cfg fs ∈ items →
      SlicesFit (streamData cfg.P cfg.C cfg.sel cfg.key cfg.iv [innerStream fs])) :
    readAll (cfgsOf items) (writeArchive items)
      = { files := (items.flatMap LItem.files).map (fun f => .ok f.out), status := .ok (), next := false } := by
  apply archive_roundtrip_own items
  intro it hit
  apply LItem.WF_intro it (hc it hit) (hf it hit)
  intro s cfg fs h
  subst h
  have : s = .stream := hs _ hit
  subst this
  exact hfit cfg fs hit

/-- the two writers, spelled out: what `buildNormalW` stores is `buildData` resp. `streamData` of the write calls -/
theorem built_entry_data (cfg : StreamCfg) (f : LFile) (fs : List LFile) :
    (buildNormal cfg f).data = buildData cfg.P cfg.C cfg.sel cfg.key cfg.iv f.writes ∧
    (buildNormalW .stream cfg f).data = streamData cfg.P cfg.C cfg.sel cfg.key cfg.iv f.writes ∧
    (buildSolid cfg fs).data = buildData cfg.P cfg.C cfg.sel cfg.key cfg.iv
      [encodeChunks ((fs.map (buildNormal plain)).flatMap serN)] ∧
    (buildSolidW .stream cfg fs).data = streamData cfg.P cfg.C cfg.sel cfg.key cfg.iv
      [encodeChunks ((fs.map (buildNormal plain)).flatMap serN)] :=
  ⟨rfl, rfl, rfl, rfl⟩

/-- **The read-back does not depend on how the content was cut into `write` calls** (nor, for that matter, on
    the writer): two well-formed archives written with the same configurations whose files agree in everything
    but the partition of their content (`LFile.out` only sees `writes.flatten`) read back the same. -/
theorem partition_independent (items₁ items₂ : List LItem) (hw₁ : ∀ it ∈ items₁, it.WF) (hw₂ : ∀ it ∈ items₂, it.WF)
    (cfgOf : Nat → StreamCfg)
    (hcfg₁ : ∀ i (h : i < items₁.length), cfgOf i = items₁[i].cfg)
    (hcfg₂ : ∀ i (h : i < items₂.length), cfgOf i = items₂[i].cfg)
    (hsame : (items₁.flatMap LItem.files).map LFile.out = (items₂.flatMap LItem.files).map LFile.out) :
    readAll cfgOf (writeArchive items₁) = readAll cfgOf (writeArchive items₂) := by
  rw [archive_roundtrip items₁ hw₁ cfgOf hcfg₁, archive_roundtrip items₂ hw₂ cfgOf hcfg₂]
  have e : ∀ l : List LFile,
      l.map (fun f => (Outcome.ok ⟨f.name, f.kind, f.md, f.xattrs, f.extra, f.writes.flatten⟩ : Outcome FileOut))
        = (l.map LFile.out).map Outcome.ok := by
    intro l; rw [List.map_map]; rfl
  rw [e, e, hsame]

theorem wf_reslice (f : LFile) (hf : f.WF) (ws : List Bytes) : ({ f with writes := ws } : LFile).WF :=
  { hf with }

/-- `partition_independent`, pointed form: re-cutting the write calls of one file anywhere in an archive — under
    either writer — changes nothing in what is read back. -/
theorem partition_independent_file (pre post : List LItem) (hpre : ∀ it ∈ pre, it.WF) (hpost : ∀ it ∈ post, it.WF)
    (s₁ s₂ : Sink) (cfg : StreamCfg) (hc : cfg.OK) (f : LFile) (hf : f.WF) (ws₁ ws₂ : List Bytes)
    (h : ws₁.flatten = ws₂.flatten) :
    readAll (cfgsOf (pre ++ .file s₁ cfg { f with writes := ws₁ } :: post))
        (writeArchive (pre ++ .file s₁ cfg { f with writes := ws₁ } :: post))
      = readAll (cfgsOf (pre ++ .file s₂ cfg { f with writes := ws₂ } :: post))
        (writeArchive (pre ++ .file s₂ cfg { f with writes := ws₂ } :: post)) := by
  have w : ∀ (s : Sink) (ws : List Bytes), ∀ it ∈ pre ++ LItem.file s cfg { f with writes := ws } :: post, it.WF :=
    fun s ws => List.forall_mem_append.mpr ⟨hpre, List.forall_mem_cons.mpr ⟨⟨hc, wf_reslice f hf ws⟩, hpost⟩⟩
  rw [archive_roundtrip_own _ (w s₁ ws₁), archive_roundtrip_own _ (w s₂ ws₂)]
  simp only [List.flatMap_append, List.flatMap_cons, LItem.files, List.map_append, List.map_cons, LFile.out, h]

/-- what must come back from the example archive (`Lemmas/CapstoneEx.lean`): four files, the two block members in
    place, each with its identity and its 5 / 20 / 3 / 0 content bytes -/
theorem ex_expected :
    (exItems.flatMap LItem.files).map (fun f => (Outcome.ok f.out : Outcome FileOut))
      = [ .ok ⟨[97], 0, { rawSize := some 5, modified := some 7, permission := some ⟨1000, [117], 1000, [103], 420⟩ },
                [⟨[117], [9]⟩], [⟨⟨109, 121, 84, 121⟩, [1, 2, 3]⟩], [1, 2, 3, 4, 5]⟩,
          .ok ⟨[100, 47, 98], 0, {}, [], [], [0, 1, 2, 3, 4, 5, 6, 7, 8, 9, 10, 11, 12, 13, 14, 15, 16, 30, 31, 32]⟩,
          .ok ⟨[99], 0, { created := some 1 }, [], [], [7, 7, 7]⟩,
          .ok ⟨[100], 1, {}, [], [], []⟩ ] := by
  decide +kernel

/-- The hypotheses of `archive_roundtrip` are satisfiable with a cipher that really permutes bytes (the toy
    permutation, `toy_lawful`), a codec that is not the identity (`maskCodec`), CBC and CTR, both writers, a normal
    entry with every kind of metadata and a solid block: the theorem, instantiated. -/
theorem ex_roundtrip :
    readAll (cfgsOf exItems) (writeArchive exItems)
      = { files := (exItems.flatMap LItem.files).map (fun f => .ok f.out), status := .ok (), next := false } :=
  archive_roundtrip_own exItems exItems_wf

/-- … and the same by evaluation of the write model and the read model, independently of the theorem. -/
theorem ex_roundtrip_eval :
    readAll (cfgsOf exItems) (writeArchive exItems)
      = { files := (exItems.flatMap LItem.files).map (fun f => .ok f.out), status := .ok (), next := false } := by
  decide +kernel

/-- the example is not degenerate: the stored data are not the content (16-byte IV + one padded CBC block; IV + CTR
    keystream over masked bytes), the archive is 649 bytes, and reading the CBC entry with another key does not return
    the content -/
theorem ex_nondegenerate :
    (buildNormal exCbc exA).data.flatten.length = 32 ∧ (buildNormal exCbc exA).data.flatten.drop 16 ≠ exA.writes.flatten ∧
    (buildNormalW .stream exCtr exB).data.flatten.length = 36 ∧
    (buildNormalW .stream exCtr exB).data.flatten.drop 16 ≠ exB.writes.flatten ∧
    (writeArchive exItems).length = 649 ∧
    openNormal { exCbc with key := exIvA ++ exIvA } (buildNormal exCbc exA) ≠ .ok exA.writes.flatten := by
  decide +kernel

end Pna.C01A

#print axioms Pna.C01A.archive_entries_exact
#print axioms Pna.C01A.archive_params_recorded
#print axioms Pna.C01A.archive_roundtrip
#print axioms Pna.C01A.archive_roundtrip_own
#print axioms Pna.C01A.archive_roundtrip_builder
#print axioms Pna.C01A.archive_roundtrip_stream
#print axioms Pna.C01A.built_entry_data
#print axioms Pna.C01A.partition_independent
#print axioms Pna.C01A.wf_reslice
#print axioms Pna.C01A.partition_independent_file
#print axioms Pna.C01A.ex_expected
#print axioms Pna.C01A.ex_roundtrip
#print axioms Pna.C01A.ex_roundtrip_eval
#print axioms Pna.C01A.ex_nondegenerate
