import PnaVerif.Lemmas.ConfinedExtract
import PnaVerif.Props.C09Fs
/-!
# C09 — part 2, general statement: extraction changes nothing outside the output directory

Setting: `cwd : Path`, `outDir : Bytes` a plain relative directory name (`comps outDir = [d]`,
`d ≠ ".."`, not absolute), `O = cwd ++ [d]`, `Sane fs O` (Lemmas/ConfinedInvariant.lean).

The statement "for EVERY entry" is **false** of the model; three kernel-checked witnesses below
(`escape_dotdot_name`, `escape_empty_name_overwrite`, `root_name_overwrite_removes_everything`).
Two of them use names that the entry-name sanitiser cannot produce (a `..` component; the name `/`);
the third uses the empty name, which `sanitize` does return (for `/` or `.`), together with `--overwrite`:
there the model lets `symlink` onto the output directory itself succeed, which the kernel refuses
(DESIGN §12.2).  The theorems are therefore stated under the explicit hypothesis `NameOkW ow e.name`
(no `..` component; at least one component unless `--overwrite` is off) and carry the suffix
`_partial`.  `sanitized_names_ok` shows every sanitised name satisfies the hypothesis except the
empty one under `--overwrite`.
-/
namespace Pna.C09C
open Pna Pna.Fs Pna.Cli Pna.Confined Pna.C09Fs

/-- **one entry**: `Sane` is an invariant and nothing outside `O` changes — any kind, any content /
    link target / hard-link source, with or without `--overwrite`, whether or not the entry fails part-way. -/
theorem extractEntry_confined_partial (ow : Bool) (cwd : Path) (outDir d : Bytes) (fs : Fs) (e : XEntry)
    (hcomps : comps outDir = [d]) (hd : d ≠ [dot, dot]) (hrel : ¬ isAbs outDir = true)
    (h : Sane fs (cwd ++ [d])) (hn : NameOkW ow e.name) :
    Sane (extractEntry ow cwd outDir fs e).1 (cwd ++ [d]) ∧
    OutsideSame (cwd ++ [d]) fs (extractEntry ow cwd outDir fs e).1 := by
  have ho : OutDir outDir d := ⟨hcomps, hd, by simpa using hrel⟩
  have ⟨s1, t1⟩ := extractEntry_goodW ow cwd outDir d fs e ho h hn
  exact ⟨s1, t1.outsideSame s1⟩

/-- **whole archive** (all non-hard-link entries in order, errors not stopping the scan, then hard links) -/
theorem extractAll_confined_partial (ow : Bool) (cwd : Path) (outDir d : Bytes) (fs : Fs) (es : List XEntry)
    (hcomps : comps outDir = [d]) (hd : d ≠ [dot, dot]) (hrel : ¬ isAbs outDir = true)
    (h : Sane fs (cwd ++ [d])) (hn : ∀ e ∈ es, NameOkW ow e.name) :
    Sane (extractAll ow cwd outDir fs es).1 (cwd ++ [d]) ∧
    OutsideSame (cwd ++ [d]) fs (extractAll ow cwd outDir fs es).1 := by
  have ho : OutDir outDir d := ⟨hcomps, hd, by simpa using hrel⟩
  have := extractAllWith_rel (Keeps (cwd ++ [d])) (Keeps.refl _) Keeps.trans (one := extractEntry ow cwd outDir)
    (fun fs e he hs => extractEntry_goodW ow cwd outDir d fs e ho hs (hn e he)) fs h
  exact ⟨this.1, this.2.outsideSame this.1⟩

/-- symlink `b -> ../outside/f`, then file `a/../b` (no `--overwrite`): the existence/link checks on
    `out/a/../b` fail with ENOENT on `a`, `create_dir_all("out/a/..")` makes `a`, and `File::create`
    then follows `b`: `/s/outside/f` is created. -/
theorem escape_dotdot_name :
    let es : List XEntry := [⟨[98], 2, [46, 46, 47] ++ outside ++ [47, 102]⟩, ⟨[97, 47, 46, 46, 47, 98], 0, [9]⟩]
    let r := extractAll false [s] out fs0 es
    r.2 = none ∧ outsideNodes r.1 ≠ outsideNodes fs0 ∧ r.1.lookup [s, outside, [102]] = some (.file 2) := by
  decide +kernel

/-- with `--overwrite`, a symlink entry with the empty name replaces the output directory itself by a
    link; the next entry is then written through it. -/
theorem escape_empty_name_overwrite :
    let es : List XEntry := [⟨[], 2, outside⟩, ⟨[120], 0, [9]⟩]
    let r := extractAll true [s] out fs0 es
    r.2 = none ∧ outsideNodes r.1 ≠ outsideNodes fs0 ∧ r.1.lookup [s, out] = some (.link outside) ∧
    r.1.lookup [s, outside, [120]] = some (.file 2) := by
  decide +kernel

/-- with `--overwrite`, a symlink entry named `/` makes the model remove the root directory tree. -/
theorem root_name_overwrite_removes_everything :
    (extractAll true [s] out fs0 [⟨[47], 2, [120]⟩]).1.nodes = [] := by
  decide +kernel

/-- `NameOkW` excludes the three offending names -/
example : ¬ NameOkW false [97, 47, 46, 46, 47, 98] ∧ ¬ NameOkW true [] ∧ ¬ NameOkW true [47] := by decide

/-- Hence the statement for arbitrary entry lists is false of the model. -/
theorem extractAll_confined_unrestricted_is_false :
    ¬ (∀ (ow : Bool) (es : List XEntry), outsideNodes (extractAll ow [s] out fs0 es).1 = outsideNodes fs0) := by
  intro h
  exact escape_dotdot_name.2.1 (h false _)

/-- non-vacuity of `Sane`: the concrete sandbox is sane (checked through the Boolean version) -/
theorem fs0_sane : Sane fs0 [s, out] := sane_of_saneB (by decide +kernel)

/-- in the vocabulary of `C09Fs`: for every archive with acceptable names, with or without
    `--overwrite`, the list of outside directory entries is literally unchanged -/
theorem C09_outsideNodes_partial (ow : Bool) (es : List XEntry) (hn : ∀ e ∈ es, NameOkW ow e.name) :
    outsideNodes (extractAll ow [s] out fs0 es).1 = outsideNodes fs0 :=
  (extractAll_confined_partial ow [s] out out fs0 es (by decide) (by decide) (by decide) fs0_sane hn).2.nodes

/-- … and so are the contents and link counts of the inodes they reference -/
theorem C09_outsideUnchanged_partial (ow : Bool) (es : List XEntry) (hn : ∀ e ∈ es, NameOkW ow e.name) :
    OutsideUnchanged fs0 (extractAll ow [s] out fs0 es).1 := by
  have h := (extractAll_confined_partial ow [s] out out fs0 es (by decide) (by decide) (by decide) fs0_sane hn).2
  refine ⟨h.nodes, fun ino hino => ?_⟩
  obtain ⟨n, hnm, hn2⟩ := List.any_eq_true.1 hino
  have hm := List.mem_filter.1 hnm
  have ho : ¬ Inside [s, out] n.1 := (outB_iff [s, out] n).1 hm.2
  have hi : n.2 = .file ino := by simpa using hn2
  exact ⟨h.content n hm.1 ho ino hi, by rw [h.links_same fs0_sane n hm.1 ho ino hi]⟩

/-- non-vacuity of the conclusion: an archive with files, a directory, a symbolic link and a hard
    link has acceptable names, is NOT refused, and leaves the outside unchanged by the theorem -/
theorem ordinary_archive_confined :
    let es : List XEntry := [⟨[100, 47, 97], 0, [7]⟩, ⟨[108], 2, [100, 47, 97]⟩, ⟨[100, 47, 104], 3, [97]⟩, ⟨[101], 1, []⟩]
    (∀ e ∈ es, NameOkW false e.name) ∧ (extractAll false [s] out fs0 es).2 = none ∧
    (extractAll false [s] out fs0 es).1.lookup [s, out, [100], [104]] = some (.file 2) ∧
    OutsideUnchanged fs0 (extractAll false [s] out fs0 es).1 := by
  intro es
  have hn : ∀ e ∈ es, NameOkW false e.name := by decide
  exact ⟨hn, ordinary_archive_extracts.1, ordinary_archive_extracts.2.2.1, C09_outsideUnchanged_partial false es hn⟩

/-- the refused escapes of `C09Fs` are instances too (the names `l`, `l/x` are acceptable) -/
example : OutsideUnchanged fs0
    (extractAll true [s] out fs0 [⟨[108], 2, [46, 46, 47] ++ outside⟩, ⟨[108, 47, 120], 0, [9]⟩]).1 :=
  C09_outsideUnchanged_partial true _ (by decide)

/-- entry names as the archive reader produces them (`sanitize`) are acceptable, the empty one without `--overwrite` only -/
theorem sanitized_names_ok (ow : Bool) (raw : Bytes) (h : sanitize raw ≠ [] ∨ ow = false) :
    NameOkW ow (sanitize raw) := by
  rcases sanitize_components raw with he | ⟨_, hall⟩
  · rw [he]
    refine ⟨by decide, ?_⟩
    rcases h with h | h
    · exact absurd he h
    · exact Or.inr h
  · rw [NameOkW, comps_of_normal hall]
    exact ⟨fun hm => (hall _ hm).2.2.1 rfl, Or.inl (splitSlash_ne_nil _)⟩

/-- the single-entry statement without the hypothesis on names is false as well: in the (sane) state
    reached after extracting the link `b -> ../outside/f`, the entry `a/../b` writes outside -/
theorem extractEntry_confined_unrestricted_is_false :
    ¬ (∀ (ow : Bool) (fs : Fs) (e : XEntry), Sane fs [s, out] →
        OutsideSame [s, out] fs (extractEntry ow [s] out fs e).1) := by
  intro h
  let fs1 : Fs := (extractAll false [s] out fs0 [⟨[98], 2, [46, 46, 47] ++ outside ++ [47, 102]⟩]).1
  have hs : Sane fs1 [s, out] := sane_of_saneB (by decide +kernel)
  have := (h false fs1 ⟨[97, 47, 46, 46, 47, 98], 0, [9]⟩ hs).nodes
  revert this
  decide +kernel

#print axioms extractEntry_confined_partial
#print axioms extractAll_confined_partial
#print axioms escape_dotdot_name
#print axioms escape_empty_name_overwrite
#print axioms root_name_overwrite_removes_everything
#print axioms extractAll_confined_unrestricted_is_false
#print axioms extractEntry_confined_unrestricted_is_false
#print axioms fs0_sane
#print axioms C09_outsideNodes_partial
#print axioms C09_outsideUnchanged_partial
#print axioms ordinary_archive_confined
#print axioms sanitized_names_ok

end Pna.C09C
