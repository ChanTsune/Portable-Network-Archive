import PnaVerif.Lemmas.Chunk
/-!
# C06 — an interrupted write leaves a prefix that is reported, not misread
Chunk level: every proper prefix of an encoded chunk — whatever bytes preceded it were
consumed by complete chunks — is answered with `UnexpectedEof`, never `Ok`, never a panic, by
both parsers.  The archive-level statements (exactly the complete chunks before the cut are returned, then
the error; a cut inside an AEND-free chunk sequence never reads as complete) are `C06A.prefix_chunks` and
`C06A.proper_prefix_never_ok` in `Props/C06Archive.lean`.
-/
namespace Pna.C06
open Pna

theorem chunk_prefix_eof (c : Chunk) (r : Bytes) (k : Nat)
    (hlen : c.data.length < 2 ^ 32) (hk : k < c.encode.length) :
    decodeStream ((c.encode ++ r).take k) = .error .eof :=
  decodeStream_prefix_eof c r k hlen hk

theorem chunk_prefix_eof_slice (c : Chunk) (r : Bytes) (k : Nat)
    (hlen : c.data.length < 2 ^ 32) (hk : k < c.encode.length) :
    decodeSlice ((c.encode ++ r).take k) = .error .eof := by
  rw [decodeSlice_eq_decodeStream]; exact decodeStream_prefix_eof c r k hlen hk

theorem parser_never_panics (bs : Bytes) :
    (decodeStream bs).isPanic = false ∧ (decodeSlice bs).isPanic = false := by
  constructor
  · exact decodeStream_no_panic bs
  · rw [decodeSlice_eq_decodeStream]; exact decodeStream_no_panic bs

/-- A truncated signature is reported (`eof`), never `Ok`. -/
theorem signature_prefix (k : Nat) (hk : k < 8) (rest : Bytes) :
    readSigStream ((signature ++ rest).take k) = .error .eof :=
  readSigStream_take_short _ k hk

example : decodeStream (((Chunk.mk ChunkType.AEND []).encode ++ []).take 11) = .error .eof := by
  decide +kernel

end Pna.C06
