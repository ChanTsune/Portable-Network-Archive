import PnaVerif.Model.Cli.Fault
/-!
# C12 — a command that fails part-way leaves the archive intact and readable

Model: `Cli.Fault` — `appendCmd` (append.rs after the `fix:` commit `819193f8`: every input is built
before the end marker is overwritten) and `rewriteCmd` (the commands that write a temp file and move
it over the archive; `extra` are `update`'s new entries).  The failing step is at an arbitrary
position `k` of the inputs (`append_fails_at_any_position`, `rewrite_extra_fails_at_any_position`)
or of the archived entries (`rewrite_fails_at_any_position`); each time the file at the archive
path is exactly as it was.  `intact_after_any_command` is the statement of C12;
`legacy_append_violates` shows that it discriminates: append.rs before the fix (write as entries
arrive), the defect that the `fault` family exhibited on the real binary.
-/
namespace Pna.C12
open Pna.Cli.Fault

theorem buildAll_none_of_mem : ∀ (inputs : List (Option Nat)), none ∈ inputs → buildAll inputs = none
  | [], h => by simp at h
  | none :: _, _ => rfl
  | some x :: r, h => by
    have : none ∈ r := by simpa using h
    simp [buildAll, buildAll_none_of_mem r this]

theorem buildAll_some_of_all : ∀ (inputs : List (Option Nat)), none ∉ inputs → buildAll inputs = some (inputs.filterMap id)
  | [], _ => rfl
  | none :: _, h => by simp at h
  | some x :: r, h => by
    have : none ∉ r := by intro h'; exact h (List.mem_cons_of_mem _ h')
    simp [buildAll, buildAll_some_of_all r this]

theorem append_failure_leaves_archive (w : World) (inputs : List (Option Nat))
    (h : (appendCmd w inputs).2 = false) : (appendCmd w inputs).1 = w := by
  unfold appendCmd at *
  split at h
  · simp_all
  · split at h
    · simp_all
    · simp at h

theorem append_fails_at_any_position (w : World) (inputs : List (Option Nat)) (k : Nat)
    (hk : inputs[k]? = some none) : (appendCmd w inputs).2 = false ∧ (appendCmd w inputs).1 = w := by
  have hb := buildAll_none_of_mem inputs (List.mem_of_getElem? hk)
  unfold appendCmd
  split
  · exact ⟨rfl, rfl⟩
  · simp [hb]

theorem foldl_addEntry_items (a : AFile) (xs : List Nat) : (xs.foldl addEntry a).items = a.items ++ xs := by
  induction xs generalizing a with
  | nil => simp
  | cons x r ih => simp [ih, addEntry]

theorem append_success (w : World) (inputs : List (Option Nat)) (ht : w.archive.terminated = true)
    (hall : none ∉ inputs) :
    (appendCmd w inputs).2 = true ∧ (appendCmd w inputs).1.archive.terminated = true ∧
    (appendCmd w inputs).1.archive.items = w.archive.items ++ inputs.filterMap id := by
  unfold appendCmd
  simp [ht, buildAll_some_of_all inputs hall, foldl_addEntry_items]

theorem rewriteGo_false_of_mem (f : Nat → Option (List Nat)) : ∀ (xs : List Nat) (t : AFile),
    (∃ x ∈ xs, f x = none) → (rewriteGo f t xs).2 = false
  | [], _, h => by simp at h
  | x :: r, t, h => by
    unfold rewriteGo
    cases hf : f x with
    | none => rfl
    | some ys =>
      simp only
      apply rewriteGo_false_of_mem f r
      obtain ⟨y, hy, hfy⟩ := h
      rcases List.mem_cons.mp hy with rfl | hy
      · rw [hf] at hfy; cases hfy
      · exact ⟨y, hy, hfy⟩

/-- the cascade of `rewriteCmd` read once: failure with one more temp file and the archive untouched,
    or success; the theorems below are read off this -/
theorem rewriteCmd_cases (w : World) (f : Nat → Option (List Nat)) (extra : List (Option Nat)) :
    (∃ t, rewriteCmd w f extra = ({ w with temps := t :: w.temps }, false)) ∨
    (∃ t built, w.archive.terminated = true ∧ rewriteGo f ⟨[], false⟩ w.archive.items = (t, true) ∧
      buildAll extra = some built ∧
      rewriteCmd w f extra = ({ w with archive := ⟨t.items ++ built, true⟩ }, true)) := by
  unfold rewriteCmd
  by_cases ht : w.archive.terminated = true
  · simp only [ht, Bool.not_true, Bool.false_eq_true, ↓reduceIte]
    rcases hg : rewriteGo f ⟨[], false⟩ w.archive.items with ⟨temp, b⟩
    cases b
    · left; exact ⟨temp, rfl⟩
    · cases hb : buildAll extra with
      | none => left; exact ⟨temp, rfl⟩
      | some built => right; exact ⟨temp, built, trivial, rfl, rfl, rfl⟩
  · left
    have : w.archive.terminated = false := by simpa using ht
    simp only [this, Bool.not_false, ↓reduceIte]
    exact ⟨_, rfl⟩

theorem rewrite_failure_leaves_archive (w : World) (f : Nat → Option (List Nat)) (extra : List (Option Nat))
    (h : (rewriteCmd w f extra).2 = false) : (rewriteCmd w f extra).1.archive = w.archive := by
  rcases rewriteCmd_cases w f extra with ⟨t, ht⟩ | ⟨t, built, _, _, _, hr⟩
  · rw [ht]
  · rw [hr] at h; simp at h

theorem rewrite_fails_at_any_position (w : World) (f : Nat → Option (List Nat)) (extra : List (Option Nat))
    (k : Nat) (x : Nat) (hk : w.archive.items[k]? = some x) (hf : f x = none) :
    (rewriteCmd w f extra).2 = false ∧ (rewriteCmd w f extra).1.archive = w.archive := by
  have h2 := rewriteGo_false_of_mem f w.archive.items ⟨[], false⟩ ⟨x, List.mem_of_getElem? hk, hf⟩
  have : (rewriteCmd w f extra).2 = false := by
    rcases rewriteCmd_cases w f extra with ⟨t, ht⟩ | ⟨t, built, _, hg, _, _⟩
    · rw [ht]
    · rw [hg] at h2; simp at h2
  exact ⟨this, rewrite_failure_leaves_archive w f extra this⟩

theorem rewrite_extra_fails_at_any_position (w : World) (f : Nat → Option (List Nat)) (extra : List (Option Nat))
    (k : Nat) (hk : extra[k]? = some none) :
    (rewriteCmd w f extra).2 = false ∧ (rewriteCmd w f extra).1.archive = w.archive := by
  have hb := buildAll_none_of_mem extra (List.mem_of_getElem? hk)
  have : (rewriteCmd w f extra).2 = false := by
    rcases rewriteCmd_cases w f extra with ⟨t, ht⟩ | ⟨t, built, _, _, hb', _⟩
    · rw [ht]
    · rw [hb] at hb'; cases hb'
  exact ⟨this, rewrite_failure_leaves_archive w f extra this⟩

theorem rewrite_success (w : World) (f : Nat → Option (List Nat)) (extra : List (Option Nat))
    (h : (rewriteCmd w f extra).2 = true) :
    (rewriteCmd w f extra).1.archive.terminated = true ∧ (rewriteCmd w f extra).1.temps = w.temps := by
  rcases rewriteCmd_cases w f extra with ⟨t, ht⟩ | ⟨t, built, _, _, _, hr⟩
  · rw [ht] at h; simp at h
  · rw [hr]; exact ⟨rfl, rfl⟩

/-- C12's "no temporary file takes its place": the temp file stays in the temp directory -/
theorem temp_never_replaces_on_failure (w : World) (f : Nat → Option (List Nat)) (extra : List (Option Nat))
    (h : (rewriteCmd w f extra).2 = false) :
    (rewriteCmd w f extra).1.archive = w.archive ∧ (rewriteCmd w f extra).1.temps.length = w.temps.length + 1 := by
  refine ⟨rewrite_failure_leaves_archive w f extra h, ?_⟩
  rcases rewriteCmd_cases w f extra with ⟨t, ht⟩ | ⟨t, built, _, _, _, hr⟩
  · rw [ht]; simp
  · rw [hr] at h; simp at h

/-- **C12** for both command shapes (`update` is `rewriteCmd` with `extra`); it is the first disjunct
    of `Intact` that holds -/
theorem intact_after_any_command (w : World) (inputs : List (Option Nat)) (f : Nat → Option (List Nat)) :
    ((appendCmd w inputs).2 = false → Intact w.archive (appendCmd w inputs).1.archive) ∧
    ((rewriteCmd w f inputs).2 = false → Intact w.archive (rewriteCmd w f inputs).1.archive) := by
  constructor
  · intro h; left; rw [append_failure_leaves_archive w inputs h]
  · intro h; left; exact rewrite_failure_leaves_archive w f inputs h

/-- the behaviour before the fix violates the statement: second input fails after the first was written -/
theorem legacy_append_violates :
    ∃ (w : World) (inputs : List (Option Nat)),
      (appendLegacy w inputs).2 = false ∧ ¬ Intact w.archive (appendLegacy w inputs).1.archive :=
  ⟨⟨⟨[1, 2], true⟩, []⟩, [some 3, none], by decide⟩

example : (appendCmd ⟨⟨[1, 2], true⟩, []⟩ [some 3, none, some 4]) = (⟨⟨[1, 2], true⟩, []⟩, false) := by decide
example : (appendCmd ⟨⟨[1, 2], true⟩, []⟩ [some 3, some 4]) = (⟨⟨[1, 2, 3, 4], true⟩, []⟩, true) := by decide
example : (rewriteCmd ⟨⟨[1, 2, 3], true⟩, []⟩ (fun x => if x = 2 then none else some [x]) []) =
    (⟨⟨[1, 2, 3], true⟩, [⟨[1], false⟩]⟩, false) := by decide
example : (rewriteCmd ⟨⟨[1, 2, 3], true⟩, []⟩ (fun x => if x = 2 then some [] else some [x]) [some 9]) =
    (⟨⟨[1, 3, 9], true⟩, []⟩, true) := by decide

end Pna.C12
