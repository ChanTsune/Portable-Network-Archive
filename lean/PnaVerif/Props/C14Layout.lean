import PnaVerif.Lemmas.ListFacts
import PnaVerif.Lemmas.CapstoneEx
import PnaVerif.Lemmas.Grouping
/-!
# C14 — layout clauses of well-formedness

"Complete entries (FHED to FEND or SHED to SEND, with the key-derivation string before the data stream),
a continuation marker only directly before the end marker, the end marker last with nothing after it."

Read off the serialisers `serN` / `serS` and `encodeArchive`.  `extra` chunks are written verbatim, so the clauses about
the inside of an entry hold under a condition on `extra`; for `serN` the counterexample stands next to the theorem.
-/
namespace Pna.C14L
open Pna Pna.Capstone ChunkType

/-- the types that may not occur inside an entry: entry/block headers and the four structural markers -/
def Structural (t : ChunkType) : Prop :=
  t = FHED ∨ t = FEND ∨ t = SHED ∨ t = SEND ∨ t = AHED ∨ t = ANXT ∨ t = AEND

instance (t : ChunkType) : Decidable (Structural t) := by unfold Structural; infer_instance

/-- **Normal entries.**  A serialised entry starts with its FHED chunk and ends with FEND; every chunk in
    between is one of `e.extra` (written verbatim, arbitrary) or of type fSIZ/PHSF/FDAT/cTIM/mTIM/aTIM/fPRM/xATR.
    This is all that is true for arbitrary `extra` (see the counterexample below). -/
theorem serN_shape (e : NormalEntry) :
    ∃ mid, serN e = ⟨FHED, encFHED e.header⟩ :: mid ++ [⟨FEND, []⟩] ∧
      ∀ c ∈ mid, c ∈ e.extra ∨ c.ty = fSIZ ∨ c.ty = PHSF ∨ c.ty = FDAT ∨ c.ty = cTIM ∨ c.ty = mTIM ∨
        c.ty = aTIM ∨ c.ty = fPRM ∨ c.ty = xATR :=
  ⟨serNMid e, serN_eq_mid e, fun c hc => (mem_serNMid hc).imp_right (by simp [serNMidTypes])⟩

/-- With no header or marker among `extra` (`NoMarkers` of Lemmas/Grouping, and no
    FHED/SHED/AHED), there is exactly one FHED — the first chunk — and one FEND — the last —, and no other
    header or marker in between: the entry is complete and self-delimiting. -/
theorem serN_mid_clean (e : NormalEntry) (hx : ∀ c ∈ e.extra, ¬ Structural c.ty) :
    ∃ mid, serN e = ⟨FHED, encFHED e.header⟩ :: mid ++ [⟨FEND, []⟩] ∧ ∀ c ∈ mid, ¬ Structural c.ty :=
  ⟨serNMid e, serN_eq_mid e, serNMid_forall_ty (¬ Structural ·) e hx (by decide)⟩

/-- the same with the hypothesis in the archive reader's terms: `NoMarkers e.extra` (Lemmas/Grouping) and no FHED
    among `extra` leave no FHED, FEND, SEND, ANXT or AEND between the header and the end marker -/
theorem serN_mid_no_FHED_FEND (e : NormalEntry) (hm : NoMarkers e.extra) (hh : ∀ c ∈ e.extra, c.ty ≠ FHED) :
    ∃ mid, serN e = ⟨FHED, encFHED e.header⟩ :: mid ++ [⟨FEND, []⟩] ∧
      ∀ c ∈ mid, c.ty ≠ FHED ∧ c.ty ≠ FEND ∧ c.ty ≠ SEND ∧ c.ty ≠ ANXT ∧ c.ty ≠ AEND :=
  ⟨serNMid e, serN_eq_mid e, serNMid_forall_ty (fun t => t ≠ FHED ∧ t ≠ FEND ∧ t ≠ SEND ∧ t ≠ ANXT ∧ t ≠ AEND) e
    (fun c h => ⟨hh c h, hm c h⟩) (by decide)⟩

theorem serN_head_last (e : NormalEntry) :
    (serN e).head? = some ⟨FHED, encFHED e.header⟩ ∧ (serN e).getLast? = some ⟨FEND, []⟩ := by
  rw [serN_eq_mid]
  exact ⟨rfl, List.getLast?_concat⟩

/-- the unconditional reading "no FEND between header and end marker" is false: `extra` is written verbatim
    (and `NormalEntry.WF` does not exclude SEND/ANXT/AEND there either, see Lemmas/Grouping) -/
example : ¬ ∀ e : NormalEntry, ∀ mid, serN e = ⟨FHED, encFHED e.header⟩ :: mid ++ [⟨FEND, []⟩] →
    ∀ c ∈ mid, c.ty ≠ FEND := by
  intro h
  exact h ⟨⟨0, 0, 0, 0, 0, 0, []⟩, none, [⟨FEND, []⟩], [], {}, []⟩ [⟨FEND, []⟩] (by decide +kernel)
    ⟨FEND, []⟩ (by simp) rfl

/-- **Solid blocks.**  SHED first, SEND last, in between `extra` chunks, PHSF, SDAT. -/
theorem serS_shape (s : SolidEntry) :
    ∃ mid, serS s = ⟨SHED, encSHED s.header⟩ :: mid ++ [⟨SEND, []⟩] ∧
      ∀ c ∈ mid, c ∈ s.extra ∨ c.ty = PHSF ∨ c.ty = SDAT :=
  ⟨serSMid s, serS_eq_mid s, fun _ => mem_serSMid⟩

theorem serS_mid_clean (s : SolidEntry) (hx : ∀ c ∈ s.extra, ¬ Structural c.ty) :
    ∃ mid, serS s = ⟨SHED, encSHED s.header⟩ :: mid ++ [⟨SEND, []⟩] ∧ ∀ c ∈ mid, ¬ Structural c.ty :=
  ⟨serSMid s, serS_eq_mid s, serSMid_forall_ty (¬ Structural ·) s hx (by decide)⟩

theorem serS_head_last (s : SolidEntry) :
    (serS s).head? = some ⟨SHED, encSHED s.header⟩ ∧ (serS s).getLast? = some ⟨SEND, []⟩ := by
  rw [serS_eq_mid]
  exact ⟨rfl, List.getLast?_concat⟩

-- the CBC entry of the example archive: a private chunk among `extra`, size, PHSF, data, mtime, owner, xattr
example : (serN (buildNormal exCbc exA)).map (·.ty)
    = [FHED, ⟨109, 121, 84, 121⟩, fSIZ, PHSF, FDAT, FDAT, mTIM, fPRM, xATR, FEND] := by decide +kernel
example : ∀ c ∈ (buildNormal exCbc exA).extra, ¬ Structural c.ty := by decide +kernel
example : NoMarkers (buildNormal exCbc exA).extra ∧ ∀ c ∈ (buildNormal exCbc exA).extra, c.ty ≠ FHED := by
  constructor
  · show ∀ c ∈ (buildNormal exCbc exA).extra, _
    decide +kernel
  · decide +kernel
example : (serS (buildSolid exCbcMask [exC, exD])).map (·.ty) = [SHED, PHSF, SDAT, SDAT, SDAT, SDAT, SDAT, SDAT, SDAT, SDAT, SEND] := by
  decide +kernel
example : ∀ c ∈ (buildSolid exCbcMask [exC, exD]).extra, ¬ Structural c.ty := by decide +kernel

/-- **Key-derivation string before the data, normal entries.**  In a serialised entry every PHSF chunk comes before
    every FDAT chunk (`extra` must not itself contain FDAT or PHSF chunks; `NormalEntry.WF` implies that). -/
theorem serN_phsf_before_data (e : NormalEntry)
    (hx : ∀ c ∈ e.extra, c.ty ≠ ChunkType.FDAT ∧ c.ty ≠ ChunkType.PHSF)
    (i j : Nat) (hi : i < (serN e).length) (hj : j < (serN e).length)
    (hp : (serN e)[i].ty = ChunkType.PHSF) (hd : (serN e)[j].ty = ChunkType.FDAT) : i < j := by
  -- `serN e` is a part without FDAT followed by a part without PHSF
  refine getElem_order_of_split (fun c => c.ty = PHSF) (fun c => c.ty = FDAT) (serN e)
    ([⟨FHED, encFHED e.header⟩] ++ e.extra ++ optChunk fSIZ (e.md.rawSize.map encFSIZ) ++ optChunk PHSF e.phsf)
    ((e.data.flatMap fun d => (rustChunks maxChunkData d).map fun u => ⟨FDAT, u⟩)
      ++ optChunk cTIM (e.md.created.map encTime) ++ optChunk mTIM (e.md.modified.map encTime)
      ++ optChunk aTIM (e.md.accessed.map encTime) ++ optChunk fPRM (e.md.permission.map encFPRM)
      ++ e.xattrs.map (fun x => ⟨xATR, encXATR x⟩) ++ [⟨FEND, []⟩]) ?_ ?_ ?_ i j hi hj hp hd
  · simp only [serN, List.append_assoc]
  · intro c hc
    simp only [List.mem_append, List.mem_singleton] at hc
    rcases hc with ((hc | hc) | hc) | hc
    · rw [hc]; exact (by decide : FHED ≠ FDAT)
    · exact (hx c hc).1
    · rw [mem_optChunk hc]; decide
    · rw [mem_optChunk hc]; decide
  · intro c hc
    simp only [List.mem_append, List.mem_singleton, List.mem_flatMap, List.mem_map] at hc
    rcases hc with (((((hc | hc) | hc) | hc) | hc) | hc) | hc
    · obtain ⟨d, _, u, _, rfl⟩ := hc; exact (by decide : FDAT ≠ PHSF)
    · rw [mem_optChunk hc]; decide
    · rw [mem_optChunk hc]; decide
    · rw [mem_optChunk hc]; decide
    · rw [mem_optChunk hc]; decide
    · obtain ⟨x, _, rfl⟩ := hc; exact (by decide : xATR ≠ PHSF)
    · rw [hc]; exact (by decide : FEND ≠ PHSF)

theorem WF_extra_no_fdat_phsf {e : NormalEntry} (h : e.WF) :
    ∀ c ∈ e.extra, c.ty ≠ ChunkType.FDAT ∧ c.ty ≠ ChunkType.PHSF :=
  fun c hc => ⟨h.extra_ne rfl c hc, h.extra_ne rfl c hc⟩

/-- without the hypothesis the order can be violated: `extra` is written before the PHSF chunk -/
example : ¬ ∀ e : NormalEntry, ∀ i j, ∀ (hi : i < (serN e).length) (hj : j < (serN e).length),
    (serN e)[i].ty = ChunkType.PHSF → (serN e)[j].ty = ChunkType.FDAT → i < j := by
  intro h
  have := h ⟨⟨0, 0, 0, 0, 0, 0, []⟩, some [], [⟨FDAT, []⟩], [], {}, []⟩ 2 1 (by decide +kernel) (by decide +kernel)
    (by decide +kernel) (by decide +kernel)
  omega

/-- **Solid blocks**: every PHSF chunk comes before every SDAT chunk (`SolidEntry.WF` implies the hypothesis) -/
theorem serS_phsf_before_data (s : SolidEntry)
    (hx : ∀ c ∈ s.extra, c.ty ≠ ChunkType.SDAT ∧ c.ty ≠ ChunkType.PHSF)
    (i j : Nat) (hi : i < (serS s).length) (hj : j < (serS s).length)
    (hp : (serS s)[i].ty = ChunkType.PHSF) (hd : (serS s)[j].ty = ChunkType.SDAT) : i < j := by
  refine getElem_order_of_split (fun c => c.ty = PHSF) (fun c => c.ty = SDAT) (serS s)
    ([⟨SHED, encSHED s.header⟩] ++ s.extra ++ optChunk PHSF s.phsf)
    (s.data.map (fun d => ⟨SDAT, d⟩) ++ [⟨SEND, []⟩]) ?_ ?_ ?_ i j hi hj hp hd
  · simp only [serS, List.append_assoc]
  · intro c hc
    simp only [List.mem_append, List.mem_singleton] at hc
    rcases hc with (hc | hc) | hc
    · rw [hc]; exact (by decide : SHED ≠ SDAT)
    · exact (hx c hc).1
    · rw [mem_optChunk hc]; decide
  · intro c hc
    simp only [List.mem_append, List.mem_singleton, List.mem_map] at hc
    rcases hc with hc | hc
    · obtain ⟨d, _, rfl⟩ := hc; exact (by decide : SDAT ≠ PHSF)
    · rw [hc]; exact (by decide : SEND ≠ PHSF)

theorem solidWF_extra_no_sdat_phsf {s : SolidEntry} (h : s.WF) :
    ∀ c ∈ s.extra, c.ty ≠ ChunkType.SDAT ∧ c.ty ≠ ChunkType.PHSF :=
  fun c hc => ⟨(h.2.2.2.2.2.1 c hc).2.2.1, (h.2.2.2.2.2.1 c hc).2.2.2⟩

-- the example entry has its PHSF at index 3 and data at 4, 5; hypothesis and both premises hold
example : (∀ c ∈ (buildNormal exCbc exA).extra, c.ty ≠ ChunkType.FDAT ∧ c.ty ≠ ChunkType.PHSF) ∧
    ((serN (buildNormal exCbc exA))[3]?.map (·.ty)) = some PHSF ∧
    ((serN (buildNormal exCbc exA))[4]?.map (·.ty)) = some FDAT := by decide +kernel
example : (∀ c ∈ (buildSolid exCbcMask [exC, exD]).extra, c.ty ≠ ChunkType.SDAT ∧ c.ty ≠ ChunkType.PHSF) ∧
    ((serS (buildSolid exCbcMask [exC, exD]))[1]?.map (·.ty)) = some PHSF ∧
    ((serS (buildSolid exCbcMask [exC, exD]))[2]?.map (·.ty)) = some SDAT := by decide +kernel

/-- **The end of an archive.**  The bytes of an archive part end with the AEND chunk (nothing after it); with `next` set the chunk
    directly before it is ANXT; and complete items contain neither marker, so they occur only there. -/
theorem archive_tail (n : Nat) (items : List (List Chunk)) (next : Bool) :
    (∃ pre, encodeArchive n items next = pre ++ (Chunk.mk ChunkType.AEND []).encode) ∧
    (next = true → ∃ pre, encodeArchive n items next
        = pre ++ (Chunk.mk ChunkType.ANXT []).encode ++ (Chunk.mk ChunkType.AEND []).encode) ∧
    ((∀ it ∈ items, ItemWF it) → ∀ c ∈ items.flatten, c.ty ≠ ChunkType.ANXT ∧ c.ty ≠ ChunkType.AEND) := by
  refine ⟨?_, ?_, fun hw => items_clean hw⟩
  · rw [encodeArchive_eq, archiveChunks, encodeChunks_append, encodeChunks_singleton, ← List.append_assoc]
    exact ⟨_, rfl⟩
  · intro hn
    rw [encodeArchive_eq, archiveChunks, hn, if_pos rfl, encodeChunks_append, encodeChunks_append,
      encodeChunks_singleton, encodeChunks_singleton, ← List.append_assoc, ← List.append_assoc]
    exact ⟨_, rfl⟩

/-- **Chunk level.**  In the chunk sequence of a written part built from complete items, an AEND chunk is the
    last chunk, and an ANXT chunk occurs only when `next` is set and then directly before the last chunk. -/
theorem archive_markers_position (n : Nat) (items : List (List Chunk)) (next : Bool)
    (hw : ∀ it ∈ items, ItemWF it) (i : Nat) (hi : i < (archiveChunks n items next).length) :
    ((archiveChunks n items next)[i].ty = ChunkType.AEND → i + 1 = (archiveChunks n items next).length) ∧
    ((archiveChunks n items next)[i].ty = ChunkType.ANXT →
      next = true ∧ i + 2 = (archiveChunks n items next).length) := by
  -- `front ++ tail` with no marker in `front`: a marker at `i` is `tail[i - front.length]`, and `tail` has 1 or 2 chunks
  have hfront : ∀ c ∈ (⟨AHED, encAHED ⟨0, 0, n⟩⟩ :: items.flatten : List Chunk), c.ty ≠ ANXT ∧ c.ty ≠ AEND := by
    intro c hc
    rcases List.mem_cons.mp hc with rfl | hc
    · exact ⟨(by decide : AHED ≠ ANXT), (by decide : AHED ≠ AEND)⟩
    · exact items_clean hw c hc
  have hc := List.getElem?_eq_getElem hi
  generalize (archiveChunks n items next)[i] = c at hc ⊢
  have hsplit : archiveChunks n items next
      = (⟨AHED, encAHED ⟨0, 0, n⟩⟩ :: items.flatten) ++ (if next then [⟨ANXT, []⟩, ⟨AEND, []⟩] else [⟨AEND, []⟩]) := by
    unfold archiveChunks
    cases next <;> simp
  rw [hsplit] at hc ⊢
  generalize (⟨AHED, encAHED ⟨0, 0, n⟩⟩ :: items.flatten : List Chunk) = front at hc hfront ⊢
  by_cases hlt : i < front.length
  · rw [List.getElem?_append_left hlt] at hc
    have := hfront c (List.mem_of_getElem? hc)
    exact ⟨fun h => absurd h this.2, fun h => absurd h this.1⟩
  · rw [List.getElem?_append_right (Nat.le_of_not_lt hlt)] at hc
    -- only the indices inside `tail` are listed: at any other, `hc` reduces to `none = some c` and `match` drops the case
    cases next
    · match hj : i - front.length, hc with
      | 0, hc =>
        cases hc
        exact ⟨fun _ => by simp; omega, fun h => absurd h (by decide)⟩
    · match hj : i - front.length, hc with
      | 0, hc =>
        cases hc
        exact ⟨fun h => absurd h (by decide), fun _ => ⟨rfl, by simp; omega⟩⟩
      | 1, hc =>
        cases hc
        exact ⟨fun _ => by simp; omega, fun h => absurd h (by decide)⟩

/-- the two items of the examples: the CBC entry and the solid block of the example archive -/
def exItemsRaw : List (List Chunk) :=
  [serN (buildNormal exCbc exA), serS (buildSolid exCbcMask [exC, exD])]

theorem exItemsRaw_wf : ∀ it ∈ exItemsRaw, ItemWF it :=
  List.forall_mem_cons.2 ⟨serN_ItemWF _ exA_wf.extraNM, List.forall_mem_singleton.2 (serS_ItemWF _ (by decide))⟩

-- part 3 of a split archive, continued: … ANXT AEND at the very end, 12 bytes each, nothing after
example : (encodeArchive 3 exItemsRaw true).length = 536 ∧
    (encodeArchive 3 exItemsRaw true).drop (536 - 24)
      = (Chunk.mk ChunkType.ANXT []).encode ++ (Chunk.mk ChunkType.AEND []).encode ∧
    (encodeArchive 3 exItemsRaw false).drop (524 - 12) = (Chunk.mk ChunkType.AEND []).encode ∧
    (archiveChunks 3 exItemsRaw true).map (·.ty)
      = [AHED, FHED, ⟨109, 121, 84, 121⟩, fSIZ, PHSF, FDAT, FDAT, mTIM, fPRM, xATR, FEND,
         SHED, PHSF, SDAT, SDAT, SDAT, SDAT, SDAT, SDAT, SDAT, SDAT, SEND, ANXT, AEND] := by
  decide +kernel

/-- without the bound the header records the part number mod 2^32 (`as u32`) -/
theorem archive_head_number_mod (n : Nat) : fromBe ((encAHED ⟨0, 0, n⟩).drop 4) = n % 2 ^ 32 := by
  have : (encAHED ⟨0, 0, n⟩).drop 4 = be32 n := rfl
  rw [this, fromBe_be32]

/-- **The start of an archive.**  An archive part starts with the signature and the AHED chunk; the AHED payload has 8 bytes —
    version 0.0, two zero bytes, and the part number big-endian in the last four. -/
theorem archive_head (n : Nat) (items : List (List Chunk)) (next : Bool) :
    (∃ rest, encodeArchive n items next
        = signature ++ (Chunk.mk ChunkType.AHED (encAHED ⟨0, 0, n⟩)).encode ++ rest) ∧
    (encAHED ⟨0, 0, n⟩).length = 8 ∧
    (encAHED ⟨0, 0, n⟩).take 4 = [0, 0, 0, 0] ∧
    (n < 2 ^ 32 → fromBe ((encAHED ⟨0, 0, n⟩).drop 4) = n) := by
  refine ⟨?_, encAHED_length _, rfl, fun hn => ?_⟩
  · rw [encodeArchive_eq, archiveChunks, List.append_assoc, List.append_assoc, encodeChunks_append,
      encodeChunks_singleton, ← List.append_assoc]
    exact ⟨_, rfl⟩
  · rw [archive_head_number_mod, Nat.mod_eq_of_lt hn]

example : (encodeArchive 258 exItemsRaw true).take 28
    = signature ++ [0, 0, 0, 8, 65, 72, 69, 68, 0, 0, 0, 0, 0, 0, 1, 2] ++ be32 (Chunk.mk AHED (encAHED ⟨0, 0, 258⟩)).crc ∧
    fromBe ((encAHED ⟨0, 0, 258⟩).drop 4) = 258 := by decide +kernel

end Pna.C14L

#print axioms Pna.C14L.serN_shape
#print axioms Pna.C14L.serN_mid_clean
#print axioms Pna.C14L.serS_shape
#print axioms Pna.C14L.serN_phsf_before_data
#print axioms Pna.C14L.serS_phsf_before_data
#print axioms Pna.C14L.archive_tail
#print axioms Pna.C14L.archive_markers_position
#print axioms Pna.C14L.archive_head
