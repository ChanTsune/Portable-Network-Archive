import PnaVerif.Lemmas.Codec
import PnaVerif.Lemmas.Name
/-!
# C15 — every metadata codec is an exact inverse pair over its whole domain (library codecs)
Each codec has `dec (enc v) = ok v` under explicit hypotheses on the value; AHED, SHED and the timestamps
also have the statement for accepted input (`ahed_stable`, `shed_exact`, `time_exact`).  The CLI text codecs are
elsewhere: ACE and xattr values in `Props/C15Cli.lean`, part names in `Props/C15Part.lean`, the chmod text in
`Props/C10Mode.lean`.
The one place where the pair is *not* inverse is stated and proved as such:
`fprm_long_name_breaks` (`len() as u8` narrows names longer than 255 bytes) — known finding
`C15-fprm-name-over-255`.
-/
namespace Pna.C15
open Pna

theorem ahed_rt (h : ArchiveHeader) (h1 : h.major < 256) (h2 : h.minor < 256) (h3 : h.number < 2 ^ 32) :
    decAHED (encAHED h) = .ok h := decAHED_encAHED h h1 h2 h3

theorem ahed_stable (bs : Bytes) (h : ArchiveHeader) (hd : decAHED bs = .ok h) :
    decAHED (encAHED h) = .ok h := by
  match bs, hd with
  | [a, b, _, _, c, d, e, f], hd =>
    cases hd
    exact decAHED_encAHED _ a.toNat_lt b.toNat_lt (show fromBe [c, d, e, f] < 256 ^ 4 from fromBe_lt _)

theorem fhed_rt (h : EntryHeader) (h1 : h.major < 256) (h2 : h.minor < 256)
    (hk : validKind h.kind = true) (hc : validCompression h.compression = true)
    (he : validEncryption h.encryption = true) (hm : validCipherMode h.cipherMode = true)
    (hu : validUtf8 h.name = true) (hs : sanitize h.name = h.name) :
    decFHED (encFHED h) = .ok h := decFHED_encFHED h h1 h2 hk hc he hm hu hs

theorem shed_rt (h : SolidHeader) (h1 : h.major < 256) (h2 : h.minor < 256)
    (hc : validCompression h.compression = true) (he : validEncryption h.encryption = true)
    (hm : validCipherMode h.cipherMode = true) : decSHED (encSHED h) = .ok h :=
  decSHED_encSHED h h1 h2 hc he hm

theorem shed_exact (bs : Bytes) (h : SolidHeader) (hd : decSHED bs = .ok h) : encSHED h = bs := by
  obtain ⟨a, b, c, e, m, rfl, -, -, -, rfl⟩ := decSHED_ok hd
  simp [encSHED, byteOf_toNat']

theorem time_rt (n : Nat) (h : n < 2 ^ 64) : decTime (encTime n) = .ok n := decTime_encTime n h

theorem time_exact (bs : Bytes) (n : Nat) (h : decTime bs = .ok n) : encTime n = bs := by
  obtain ⟨h8, rfl⟩ := decTime_ok h
  have := beN_fromBe bs
  rwa [h8] at this

theorem fsiz_rt (n : Nat) (h : n < 2 ^ 128) : decFSIZ (encFSIZ n) = n := decFSIZ_encFSIZ n h

theorem xattr_rt (x : XAttr) (hn : x.name.length < 2 ^ 32) (hv : x.value.length < 2 ^ 32)
    (hu : validUtf8 x.name = true) : decXATR (encXATR x) = .ok x := decXATR_encXATR x hn hv hu

theorem fprm_rt (p : Permission) (hu : p.uname.length ≤ 255) (hg : p.gname.length ≤ 255)
    (huid : p.uid < 2 ^ 64) (hgid : p.gid < 2 ^ 64) (hm : p.mode < 2 ^ 16)
    (hvu : validUtf8 p.uname = true) (hvg : validUtf8 p.gname = true) :
    decFPRM (encFPRM p) = .ok p := decFPRM_encFPRM p hu hg huid hgid hm hvu hvg

/-- The full statement (no length hypothesis) is false of model and code: a 256-byte user name
    is encoded with length byte 0 and decodes as the empty string followed by garbage. -/
theorem fprm_long_name_breaks :
    ∃ p : Permission, validUtf8 p.uname = true ∧ decFPRM (encFPRM p) ≠ .ok p := by
  -- whatever `decFPRM` returns has names of at most 255 bytes (`decFPRM_WF`): it cannot return this one
  refine ⟨⟨0, List.replicate 256 110, 0, [], 0⟩, validUtf8_replicate 256 (c := 'n') (by decide), fun h => ?_⟩
  have : (List.replicate 256 (110 : UInt8)).length ≤ 255 := (decFPRM_WF h).2.2.2.1
  rw [List.length_replicate] at this
  omega

/-- Chunk-type property bits, for all 2^32 codes: a code that `ChunkType::private` accepts is returned
    unchanged, has the private bit set and the reserved bit clear. -/
theorem chunktype_private_bits (t : ChunkType) (t' : ChunkType) (h : t.mkPrivate = .ok t') :
    t' = t ∧ t.isPrivate = true ∧ t.isSetReserved = false := by
  -- bit 5 of an ASCII letter is its case, for each of the 256 byte values
  have bit5 : ∀ b : UInt8, (ChunkType.isAsciiLower b = true → (b &&& 32 != 0) = true) ∧
      (ChunkType.isAsciiUpper b = true → (b &&& 32 != 0) = false) := by
    intro b
    have : ∀ n, n < 256 →
        (ChunkType.isAsciiLower (UInt8.ofNat n) = true → (UInt8.ofNat n &&& 32 != 0) = true) ∧
        (ChunkType.isAsciiUpper (UInt8.ofNat n) = true → (UInt8.ofNat n &&& 32 != 0) = false) := by
      decide +kernel
    exact UInt8.ofNat_toNat (x := b) ▸ this b.toNat b.toNat_lt
  unfold ChunkType.mkPrivate at h
  split at h; · simp at h
  split at h; · simp at h
  split at h; · simp at h
  rename_i h1 h2 h3
  simp only [Except.ok.injEq] at h
  exact ⟨h.symm, (bit5 t.b1).1 (by simpa using h2), (bit5 t.b2).2 (by simpa using h3)⟩

-- non-vacuity: concrete values meeting every hypothesis
example : decFPRM (encFPRM ⟨1000, [117, 49], 100, [103], 0o644⟩) = .ok ⟨1000, [117, 49], 100, [103], 0o644⟩ := by
  decide +kernel
example : decFHED (encFHED ⟨0, 0, 0, 2, 1, 1, [97, 47, 98]⟩) = .ok ⟨0, 0, 0, 2, 1, 1, [97, 47, 98]⟩ := by
  decide +kernel
example : decFSIZ (encFSIZ 70000) = 70000 := by decide +kernel

end Pna.C15
