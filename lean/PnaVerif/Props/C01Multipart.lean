import PnaVerif.Props.C04
import PnaVerif.Props.C04Read
import PnaVerif.Props.C01Archive
/-!
# C01 (capstone) for multipart archives — write, split into part files, read the parts in sequence, open everything

`Props/C01Archive.lean` proves read ∘ write = id for a single archive (`C01A.archive_roundtrip`).  Here the written
archive is cut into part files (`writeSplit`, `encodeParts`: what `pna split` / `create --split` produce), the parts
are read in sequence (`readMultipartWith`), and every entry is opened exactly as in the single-archive capstone
(`openAll`).  The result is the same right-hand side: clean end, and for every file of every item, in order: name,
kind, metadata, xattrs, extra chunks, content = `writes.flatten`.

* `openReadEntry_same`          opening an entry depends on its data only through the concatenation (`SameE`);
* `archive_roundtrip_multipart` the capstone;
* `roundtrip_needs_extra_unmixed`   the one hypothesis the single-archive capstone does not have (`hu`: no SDAT chunk
                                among the uninterpreted chunks of a file entry) is needed: `LFile.WF` allows such a
                                chunk, `split` cuts it, and it comes back as two chunks.

Composition: `C04R.split_read_entries_all2` (= `C04M.split_then_read_partial` + `split_groups` + `parseItems_rel`,
put together in `C04R.split_read_all2`, then `parseItems_serEntry` and `All2_recut`) gives the written entries back up
to `SameE`;
`openAll_same` transports `Capstone.openAll_items` (= the data pipeline, entry codecs and solid-block theorems)
along `SameE`.
-/
namespace Pna.C01M
open Pna Pna.Capstone Pna.C04M

theorem openEntry_same (cfg : StreamCfg) {a b : NormalEntry} (h : SameN a b) : openEntry cfg a = openEntry cfg b := by
  obtain ⟨h1, _, h3, h4, h5, h6⟩ := h
  unfold openEntry openNormal
  rw [C01.readData_recut cfg.P cfg.C cfg.sel cfg.key a.data b.data h6, h1, h3, h4, h5]

theorem expandSolid_same (cfg : StreamCfg) {a b : SolidEntry} (h : SameS a b) :
    expandSolid cfg a = expandSolid cfg b := by
  unfold expandSolid
  rw [C01.readData_recut cfg.P cfg.C cfg.sel cfg.key a.data b.data h.2.2.2]

/-- Opening an entry does not depend on where its data is cut: `openNormal` / `expandSolid` see the data only
    through `data.flatten`, everything else is taken literally. -/
theorem openReadEntry_same (cfg : StreamCfg) {a b : ReadEntry} (h : SameE a b) :
    openReadEntry cfg a = openReadEntry cfg b := by
  cases a with
  | normal x =>
    cases b with
    | normal y => simp only [openReadEntry, openEntry_same cfg (show SameN x y from h)]
    | solid y => exact absurd h (by simp [SameE])
  | solid x =>
    cases b with
    | normal y => exact absurd h (by simp [SameE])
    | solid y => simp only [openReadEntry, expandSolid_same cfg (show SameS x y from h)]

theorem openAll_same {l m : List ReadEntry} (h : All2 SameE l m) :
    ∀ cfgOf : Nat → StreamCfg, openAll cfgOf l = openAll cfgOf m := by
  induction h with
  | nil => intro _; rfl
  | cons hab _ ih =>
    intro cfgOf
    simp only [openAll]
    rw [openReadEntry_same (cfgOf 0) hab, ih]

/-- The analogue of `Capstone.readAll` for a sequence of part files: the multipart reader
    (`Archive::read_header`, then `read_next_archive` for every further part) followed by opening every entry;
    `next` is the ANXT flag of the last part file read (false = the sequence is complete). -/
def readAllMultipart (cfgOf : Nat → StreamCfg) (parts : List Bytes) : ReadAll :=
  let m := readMultipartWith chunksStream true 0 [] parts
  { files := openAll cfgOf m.1, status := m.2,
    next := match parts.getLast? with
      | some p => (readArchiveWith chunksStream [] p).next
      | none => false }

/-- the cheapest hypothesis that makes every serialised item `Unmixed`: a file entry keeps no SDAT chunk among its
    uninterpreted chunks (`LFile.WF.extraUn` already excludes FDAT; solid blocks are written with `extra = []`) -/
def ExtraUnmixed (items : List LItem) : Prop :=
  ∀ s cfg f, LItem.file s cfg f ∈ items → ∀ c ∈ f.extra, c.ty ≠ ChunkType.SDAT

theorem toReadEntry_unmixed (it : LItem)
    (h : ∀ s cfg f, it = LItem.file s cfg f → ∀ c ∈ f.extra, c.ty ≠ ChunkType.SDAT) :
    Unmixed (serEntry (toReadEntry it)) := by
  cases it with
  | file s cfg f => exact serN_unmixed _ (h s cfg f rfl)
  | block s cfg fs => exact serS_unmixed _ (fun _ hc => absurd hc List.not_mem_nil)

/-- the field `next` of `readAllMultipart` on a complete sequence: the last part file carries no ANXT -/
theorem last_part_next (bodies : List (List Chunk)) (hne : bodies ≠ []) (hlen : bodies.length ≤ 2 ^ 32)
    (hfit : ChunksFit bodies.flatten) (hno : BodiesClean bodies) :
    (match (encodeParts bodies).getLast? with
      | some p => (readArchiveWith chunksStream [] p).next
      | none => false) = false := by
  have hpos : 0 < bodies.length := List.length_pos_iff.mpr hne
  have hi : bodies.length - 1 < bodies.length := by omega
  have hi2 : bodies.length - 1 < (encodeParts bodies).length := by rw [encodeParts_length]; exact hi
  have hl : (encodeParts bodies).getLast? = some ((encodeParts bodies)[bodies.length - 1]'hi2) := by
    rw [List.getLast?_eq_getElem?, encodeParts_length, List.getElem?_eq_getElem hi2]
  rw [hl]
  simp only
  rw [(part_next_flag bodies hlen hfit hno (bodies.length - 1) hi []).1]
  simp only [decide_eq_false_iff_not]
  omega

/-- **C01 for multipart archives, end to end.**  For every list of well-formed items — any mix of normal entries
    and solid blocks, each with its own writer, codec, cipher, key, IV — written as an archive, cut into part files
    of at most `maxFile` bytes (entries and data chunks cut wherever the limit falls), at most 2^32 of them:
    reading the part files in sequence with the configurations the items were written with succeeds, ends cleanly
    (status ok, no ANXT on the last part), and returns in order, for every file of every item (block files in
    place), its name, kind, metadata, extended attributes, extra chunks and exactly the bytes written —
    the same right-hand side as `C01A.archive_roundtrip`.
    `hu` is the only hypothesis on the items that the single-archive capstone does not have (and it is needed:
    `roundtrip_needs_extra_unmixed`); `hlen` is needed as well (`C04M.too_many_parts_unreadable`). -/
theorem archive_roundtrip_multipart (items : List LItem) (hw : ∀ it ∈ items, it.WF) (hu : ExtraUnmixed items)
    (maxFile : Nat) (bodies : List (List Chunk))
    (hs : writeSplit ((items.map toReadEntry).map serEntry) maxFile = .ok bodies) (hlen : bodies.length ≤ 2 ^ 32)
    (cfgOf : Nat → StreamCfg) (hcfg : ∀ i (h : i < items.length), cfgOf i = items[i].cfg) :
    readAllMultipart cfgOf (encodeParts bodies)
      = { files := (items.flatMap LItem.files).map
            (fun f => .ok ⟨f.name, f.kind, f.md, f.xattrs, f.extra, f.writes.flatten⟩),
          status := .ok (), next := false } := by
  obtain ⟨hwf, hnm, hfit⟩ := written_entries_ok items hw
  have hun : ∀ e ∈ items.map toReadEntry, Unmixed (serEntry e) :=
    List.forall_mem_map.mpr fun it hit => toReadEntry_unmixed it (fun s cfg f h => hu s cfg f (h ▸ hit))
  obtain ⟨p1, p2⟩ := C04R.split_read_entries_all2 (items.map toReadEntry) hwf hnm hun hfit maxFile bodies hs hlen
  have hiw : ∀ it ∈ (items.map toReadEntry).map serEntry, ItemWF it :=
    List.forall_mem_map.mpr fun e he => serEntry_ItemWF e (hnm e he)
  obtain ⟨hne, hbf, hclean, _, _⟩ := split_then_read_partial _ maxFile bodies hs hiw
    (by rw [← List.flatMap_def]; exact hfit) hlen
  unfold readAllMultipart
  simp only
  rw [last_part_next bodies hne hlen hbf hclean, p2, openAll_same p1 cfgOf,
    openAll_same (All2_recut (items.map toReadEntry)) cfgOf, openAll_items items hw cfgOf hcfg]
  rfl

/-- the same with the reader's configurations spelled out: those of the items, by position -/
theorem archive_roundtrip_multipart_own (items : List LItem) (hw : ∀ it ∈ items, it.WF) (hu : ExtraUnmixed items)
    (maxFile : Nat) (bodies : List (List Chunk))
    (hs : writeSplit ((items.map toReadEntry).map serEntry) maxFile = .ok bodies) (hlen : bodies.length ≤ 2 ^ 32) :
    readAllMultipart (cfgsOf items) (encodeParts bodies)
      = { files := (items.flatMap LItem.files).map (fun f => .ok f.out), status := .ok (), next := false } :=
  archive_roundtrip_multipart items hw hu maxFile bodies hs hlen (cfgsOf items) (cfgsOf_spec items)

/-- … hence splitting is invisible to the reader: the part files read back exactly as the single archive does -/
theorem multipart_eq_single (items : List LItem) (hw : ∀ it ∈ items, it.WF) (hu : ExtraUnmixed items)
    (maxFile : Nat) (bodies : List (List Chunk))
    (hs : writeSplit ((items.map toReadEntry).map serEntry) maxFile = .ok bodies) (hlen : bodies.length ≤ 2 ^ 32)
    (cfgOf : Nat → StreamCfg) (hcfg : ∀ i (h : i < items.length), cfgOf i = items[i].cfg) :
    readAllMultipart cfgOf (encodeParts bodies) = readAll cfgOf (writeArchive items) := by
  rw [archive_roundtrip_multipart items hw hu maxFile bodies hs hlen cfgOf hcfg,
    C01A.archive_roundtrip items hw cfgOf hcfg]

/-- the example archive of Lemmas/CapstoneEx.lean (`exItems`: a built CBC entry with every kind of metadata, a
    streamed CTR entry, a built CBC solid block of two files; 649 bytes) cut into part files of at most 120 bytes -/
def exBodies : List (List Chunk) :=
  match writeSplit ((exItems.map toReadEntry).map serEntry) 120 with
  | .ok b => b
  | _ => []

/-- `exBodies` and `exMixedBodies` are defined as what a split returns, so evaluating that it succeeds is enough.
    The hypothesis stands behind the colon (in front of it the `match` would be generalised over it), and the lemma
    behind `exBodies`, whose matcher it then shares.  In front of `exBodies` nothing fails to check: the shared matcher
    is then named after this lemma, and what `exBodies` and `exMixedBodies` elaborate to changes (as at
    `outcome_unit_norm`, Lemmas/Grouping.lean). -/
theorem ok_of_isOk {o : Outcome (List (List Chunk))} :
    o.isOk = true → o = .ok (match o with | .ok b => b | _ => []) := by
  intro h
  cases o <;> first | rfl | cases h

theorem ex_split : writeSplit ((exItems.map toReadEntry).map serEntry) 120 = .ok exBodies :=
  ok_of_isOk (by decide +kernel)

/-- eleven part files, none above 120 bytes; entries are cut across parts, and so are FDAT and SDAT chunks
    (the pieces of one chunk end one body and start the next) -/
theorem ex_parts : exBodies.length = 11 ∧ (∀ p ∈ encodeParts exBodies, p.length ≤ 120) ∧
    (exBodies.map fun b => b.map fun c => c.data.length)
      = [[7, 3, 1, 8], [16, 16], [8, 22], [10, 0, 9], [8, 16, 8], [9, 3, 0, 5], [8, 16, 8], [8, 16, 8], [8, 16, 8],
         [8, 16, 8], [8, 0]] := by
  have h3 : (exBodies.map fun b => b.map fun c => c.data.length)
      = [[7, 3, 1, 8], [16, 16], [8, 22], [10, 0, 9], [8, 16, 8], [9, 3, 0, 5], [8, 16, 8], [8, 16, 8], [8, 16, 8],
         [8, 16, 8], [8, 0]] := by decide +kernel
  refine ⟨by simpa using congrArg List.length h3, fun p hp => ?_, h3⟩
  obtain ⟨i, hi, rfl⟩ := List.getElem_of_mem hp
  rw [encodeParts_length] at hi
  rw [encodeParts_getElem _ i hi]
  exact C04.parts_le_max _ _ _ ex_split i hi

theorem exItems_unmixed : ExtraUnmixed exItems := by
  intro s cfg f h
  simp only [exItems, List.mem_cons, List.not_mem_nil, or_false, LItem.file.injEq, reduceCtorEq] at h
  rcases h with ⟨_, _, rfl⟩ | ⟨_, _, rfl⟩ <;> decide

/-- the theorem, instantiated: the hypotheses are satisfiable with a split that really cuts -/
theorem ex_roundtrip_multipart :
    readAllMultipart (cfgsOf exItems) (encodeParts exBodies)
      = { files := (exItems.flatMap LItem.files).map (fun f => .ok f.out), status := .ok (), next := false } :=
  archive_roundtrip_multipart_own exItems exItems_wf exItems_unmixed 120 exBodies ex_split (by rw [ex_parts.1]; decide)

/-- … and the same by evaluation, independently of `archive_roundtrip_multipart`: the split model, grouping,
    parsing, decrypting and decompressing are evaluated; only the byte framing of the part files is taken from
    `C04M.multipart_eq_concat` (`C01A.ex_expected` spells the four files out) -/
theorem ex_roundtrip_multipart_eval :
    readAllMultipart (cfgsOf exItems) (encodeParts exBodies)
      = { files := (exItems.flatMap LItem.files).map (fun f => .ok f.out), status := .ok (), next := false } := by
  have hb : exBodies ≠ [] ∧ exBodies.length ≤ 2 ^ 32 ∧ ChunksFit exBodies.flatten ∧ BodiesClean exBodies := by
    unfold BodiesClean
    decide +kernel
  obtain ⟨h0, h1, h2, h3⟩ := hb
  unfold readAllMultipart
  simp only
  rw [last_part_next exBodies h0 h1 h2 h3, multipart_eq_concat exBodies h1 h2 h3]
  decide +kernel

example := multipart_eq_single exItems exItems_wf exItems_unmixed 120 exBodies ex_split (by rw [ex_parts.1]; decide)
  (cfgsOf exItems) (cfgsOf_spec exItems)

-- `openReadEntry_same` on two entries that differ in the cutting of their data only
example : SameE (.normal C04R.exN) (.normal { C04R.exN with data := [List.replicate 17 7, List.replicate 23 7] }) ∧
    C04R.exN ≠ { C04R.exN with data := [List.replicate 17 7, List.replicate 23 7] } := by decide +kernel
example := openReadEntry_same plain
  (a := .normal C04R.exN) (b := .normal { C04R.exN with data := [List.replicate 17 7, List.replicate 23 7] })
  (by decide +kernel)

/-- a file whose uninterpreted chunks include an SDAT chunk of 40 bytes (a well-formed `LFile`: the entry parser
    does not interpret SDAT inside a normal entry, and it is no item boundary) -/
def exMixed : LFile :=
  { name := [97], kind := 0, extra := [⟨ChunkType.SDAT, List.replicate 40 5⟩], writes := [[1, 2, 3]] }

theorem exMixed_wf : exMixed.WF := by decide +kernel

def exMixedBodies : List (List Chunk) :=
  match writeSplit (([LItem.file .builder plain exMixed].map toReadEntry).map serEntry) 100 with
  | .ok b => b
  | _ => []

/-- `hu` cannot be dropped.  One well-formed item, split at 100 bytes per file (3 parts): every other hypothesis
    of `archive_roundtrip_multipart` holds, the single archive reads back exactly (`C01A.archive_roundtrip`), but
    from the part files the SDAT chunk comes back as TWO extra chunks (17 + 23 bytes): `EntryPart::split` cuts every
    FDAT/SDAT chunk, also an SDAT chunk that a normal entry merely carries along. -/
theorem roundtrip_needs_extra_unmixed :
    ∃ (items : List LItem) (maxFile : Nat) (bodies : List (List Chunk)),
      (∀ it ∈ items, it.WF) ∧ writeSplit ((items.map toReadEntry).map serEntry) maxFile = .ok bodies ∧
      bodies.length = 3 ∧ ¬ ExtraUnmixed items ∧
      readAll (cfgsOf items) (writeArchive items)
        = { files := (items.flatMap LItem.files).map (fun f => .ok f.out), status := .ok (), next := false } ∧
      readAllMultipart (cfgsOf items) (encodeParts bodies)
        = { files := [.ok ⟨[97], 0, {}, [], [⟨ChunkType.SDAT, List.replicate 17 5⟩,
                        ⟨ChunkType.SDAT, List.replicate 23 5⟩], [1, 2, 3]⟩],
            status := .ok (), next := false } ∧
      readAllMultipart (cfgsOf items) (encodeParts bodies)
        ≠ { files := (items.flatMap LItem.files).map (fun f => .ok f.out), status := .ok (), next := false } := by
  have hwf : ∀ it ∈ [LItem.file .builder plain exMixed], it.WF := by
    intro it hit
    rw [List.mem_singleton.mp hit]
    exact ⟨plain_ok, exMixed_wf⟩
  have hs : writeSplit (([LItem.file .builder plain exMixed].map toReadEntry).map serEntry) 100 = .ok exMixedBodies :=
    ok_of_isOk (by decide +kernel)
  -- the three part files are read from their bytes
  have hr : readAllMultipart (cfgsOf [LItem.file .builder plain exMixed]) (encodeParts exMixedBodies)
      = { files := [.ok ⟨[97], 0, {}, [], [⟨ChunkType.SDAT, List.replicate 17 5⟩,
                      ⟨ChunkType.SDAT, List.replicate 23 5⟩], [1, 2, 3]⟩],
          status := .ok (), next := false } := by decide +kernel
  refine ⟨[.file .builder plain exMixed], 100, exMixedBodies, hwf, hs, by decide +kernel, ?_,
    C01A.archive_roundtrip_own _ hwf, hr, by rw [hr]; decide +kernel⟩
  intro h
  exact h .builder plain exMixed (by simp) ⟨ChunkType.SDAT, List.replicate 40 5⟩ (by simp [exMixed]) rfl

end Pna.C01M

#print axioms Pna.C01M.openReadEntry_same
#print axioms Pna.C01M.archive_roundtrip_multipart
#print axioms Pna.C01M.archive_roundtrip_multipart_own
#print axioms Pna.C01M.multipart_eq_single
#print axioms Pna.C01M.ex_roundtrip_multipart
#print axioms Pna.C01M.ex_roundtrip_multipart_eval
#print axioms Pna.C01M.roundtrip_needs_extra_unmixed
