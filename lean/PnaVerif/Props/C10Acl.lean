import PnaVerif.Lemmas.AclFast
import PnaVerif.Lemmas.Acl
/-!
# C10 — `migrate` and `acl set` change the access-control chunks and nothing else
Model: `Cli.aclOf` (transcription of `NormalEntryExt::acl`, an insertion-ordered map after the `fix:`), `Cli.migrateE`
and `Cli.aclSetE`.  On every entry `migrate` leaves name, kind, stored data, sizes, mode, owner, times and extended
attributes alone (`migrate_other_fields`), keeps the private chunks that are not access-control chunks, in their
order (`migrate_other_chunks`), and puts the access-control chunks, grouped by platform, in front of them
(`migrate_layout`); platforms stay in the order of their first occurrence (`aclInsert_keys`; the `HashMap` of the
code before the `fix:` had no such order: two runs could write different bytes).  The `aclset_*` theorems are the same
frame for `acl set`; what it does to the lists is in Props/C10AclSet.
The correspondence (`transform … migrate`, `transform … aclset`) compares the model's extras byte for byte with what
the real command writes.
-/
namespace Pna.C10A
open Pna Pna.Cli

theorem migrate_layout (e e2 : LEntry) (h : migrateE e = some e2) :
    ∃ m, aclOf [] [] e.extras = some m ∧ e2.extras = aclChunks m ++ e.extras.filter (fun x => !isAclChunk x) := by
  simp only [migrateE, Option.map_eq_some_iff] at h
  obtain ⟨m, hm, rfl⟩ := h
  exact ⟨m, hm, rfl⟩

theorem migrate_other_fields (e e2 : LEntry) (h : migrateE e = some e2) :
    e2.name = e.name ∧ e2.kind = e.kind ∧ e2.data = e.data ∧ e2.rawSize = e.rawSize ∧ e2.mode = e.mode ∧
    e2.owner = e.owner ∧ e2.created = e.created ∧ e2.modified = e.modified ∧ e2.accessed = e.accessed ∧
    e2.xattrs = e.xattrs := by
  simp only [migrateE, Option.map_eq_some_iff] at h
  obtain ⟨m, _, rfl⟩ := h
  exact ⟨rfl, rfl, rfl, rfl, rfl, rfl, rfl, rfl, rfl, rfl⟩

theorem migrate_other_chunks (e e2 : LEntry) (h : migrateE e = some e2) :
    e2.extras.filter (fun x => !isAclChunk x) = e.extras.filter (fun x => !isAclChunk x) := by
  obtain ⟨m, _, hx⟩ := migrate_layout e e2 h
  rw [hx, List.filter_append, List.filter_filter, filter_aclChunks, List.nil_append]
  congr 1
  funext x
  simp

/-- platforms stay in the order of their first occurrence -/
theorem aclInsert_keys (m : AclMap) (k : Text.Str) (a : Text.Ace) :
    (aclInsert m k a).map (·.1) = if m.any (·.1 == k) then m.map (·.1) else m.map (·.1) ++ [k] :=
  Cli.aclInsert_keys m k a

/-- an entry the patterns do not select is handed on as it is -/
theorem aclset_unselected (sel : Bytes → Bool) (m r : Option AclArg) (e : LEntry) (h : sel e.name = false) :
    aclSetF sel m r e = some e := by
  simp [aclSetF, h]

/-- an entry without an access-control list of the General platform is handed on as it is (the command edits that
    list only: archives written with `--keep-acl` on Linux carry `linux` lists and are not edited at all) -/
theorem aclset_without_general (m r : Option AclArg) (e : LEntry)
    (h : ((aclOf [] [] e.extras).getD []).any (·.1 == []) = false) : aclSetE m r e = e := by
  unfold aclSetE
  simp only [h, Bool.not_false, if_true]

/-- whatever is edited, everything but the private chunks stays -/
theorem aclset_other_fields (m r : Option AclArg) (e : LEntry) :
    (aclSetE m r e).name = e.name ∧ (aclSetE m r e).kind = e.kind ∧ (aclSetE m r e).data = e.data ∧
    (aclSetE m r e).rawSize = e.rawSize ∧ (aclSetE m r e).mode = e.mode ∧ (aclSetE m r e).owner = e.owner ∧
    (aclSetE m r e).created = e.created ∧ (aclSetE m r e).modified = e.modified ∧
    (aclSetE m r e).accessed = e.accessed ∧ (aclSetE m r e).xattrs = e.xattrs := by
  unfold aclSetE
  dsimp only
  split <;> exact ⟨rfl, rfl, rfl, rfl, rfl, rfl, rfl, rfl, rfl, rfl⟩

/-- … and the private chunks that are not access-control chunks are all still there, in their order -/
theorem aclset_other_chunks (m r : Option AclArg) (e : LEntry) :
    (aclSetE m r e).extras.filter (fun x => !isAclChunk x) = e.extras.filter (fun x => !isAclChunk x) := by
  unfold aclSetE
  dsimp only
  split
  · rfl
  · rw [List.filter_append, List.filter_filter, filter_aclChunks, List.nil_append]
    congr 1
    funext x
    simp

theorem modifyFirst_length (x : AclArg) (l : List Text.Ace) : (modifyFirst x l).length = l.length := by
  fun_induction modifyFirst x l <;> simp [*]

-- non-vacuity: an entry with a linux ACL, a private chunk, and an entry of another platform carrying its own prefix
def exE : LEntry :=
  { name := [97]
    kind := 0
    data := [48, 48, 48]
    extras := [([109,121,84,121], [1]), (faCl, "linux".toUTF8.toList), (faCe, "linux:d:u:alice:allow:r,w".toUTF8.toList),
               (faCe, "macos::g:staff:deny:w".toUTF8.toList), ([122,122,84,121], [2])] }

example : (migrateE exE).map (fun e => e.extras.map (·.1))
    = some [faCl, faCe, faCl, faCe, [109,121,84,121], [122,122,84,121]] := by
  unfold migrateE
  rw [Fast.aclOf_eq, Fast.aclChunks_eq]
  decide +kernel


-- acl set on an entry with a General list: the matching entry's permission is replaced, the linux list is untouched
def exG : LEntry :=
  { name := [97]
    kind := 0
    data := [48, 48, 48]
    extras := [(faCl, "linux".toUTF8.toList), (faCe, "linux::u:alice:allow:r".toUTF8.toList), (faCl, []),
               (faCe, ":u:bob:allow:r".toUTF8.toList), ([109,121,84,121], [1])] }

/-- `exG` with its texts as bytes, evaluated once: what evaluates over `exG` rewrites with it and need not decode the
    string literals again -/
theorem exG_eq : exG =
    { name := [97], kind := 0, data := [48, 48, 48]
      extras := [(faCl, [108,105,110,117,120]),
        (faCe, [108,105,110,117,120,58,58,117,58,97,108,105,99,101,58,97,108,108,111,119,58,114]), (faCl, []),
        (faCe, [58,117,58,98,111,98,58,97,108,108,111,119,58,114]), ([109,121,84,121], [1])] } := by
  decide +kernel

example : (aclSetE (some ⟨false, .user "bob".toList, some "w,x".toList⟩) none exG).extras.map (fun x => (x.1 == faCe, String.ofList ((decodeUtf8 x.2).getD [])))
    = [(false, "linux"), (true, ":u:alice:allow:r"), (false, ""), (true, ":u:bob:allow:w,x"), (false, "\x01")] := by
  rw [Fast.aclSetE_eq, Fast.decodeUtf8_eq, exG_eq]
  decide +kernel
example : aclSetE (some ⟨false, .user "bob".toList, some "w".toList⟩) none exE = exE := by
  rw [Fast.aclSetE_eq]
  decide +kernel

end Pna.C10A
