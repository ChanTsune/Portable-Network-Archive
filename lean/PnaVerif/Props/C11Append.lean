import PnaVerif.Lemmas.EntryRt
import PnaVerif.Lemmas.Append
import PnaVerif.Lemmas.Grouping
/-!
# C11 (append, byte level) — `Archive::seek_to_end`, then `add_entry` / `finalize` at that position
(with the C06 / C07 faces: what append does on truncated and on damaged archives)

Model: `Model/Append.lean` (`skipChunk`, `seekEndGo`, `seekEnd`, `overwriteAt`, `appendBytes`); lemmas:
`Lemmas/Append.lean`.

On a written archive the end marker is found at `length - 12`, and appending items gives exactly the archive written
from the old items followed by the new ones (`append_written`; read back: `append_then_read`).  For EVERY file:
`seekEnd` never panics and its own fuel suffices; when append succeeds no byte before the end marker moves, and what
lies behind the written range stays (nothing truncates).  `skip_chunk` reads chunk heads only, never a CRC.  So a
prefix of a written archive that stops before the 8-byte AEND head is complete gets `UnexpectedEof`, but a file that
lacks the last 1–4 bytes (the CRC of AEND) is ACCEPTED, and append repairs it: the new AEND is written whole.  And data
and CRC bytes of the chunks between AHED and AEND are never looked at: append does not notice an altered byte there,
and leaves it in place.
-/
namespace Pna.C11A
open Pna Pna.Append ChunkType

/-- `seek_to_end` on a written archive: the offset of the AEND chunk (12 bytes before the
    end) and the continuation flag. -/
theorem seekEnd_written (n : Nat) (hn : n < 2 ^ 32) (items : List (List Chunk))
    (hw : ∀ it ∈ items, ItemWF it) (hfit : ChunksFit items.flatten) (next : Bool) :
    seekEnd (encodeArchive n items next) = .ok ((encodeArchive n items next).length - 12, next) := by
  rw [encodeArchive_archiveBytes, seekEnd_archiveBytes n hn _ (anxtIf_fit hfit next)
      (anxtIf_noAEND ((items_clean hw).noAEND) next), archiveBytes_length_chunks, Nat.add_sub_cancel,
    anxtIf_any ((items_clean hw).noANXT)]

/-- the offset returned is where the AEND chunk starts: the 12 bytes from there on are AEND -/
theorem seekEnd_written_points_at_aend (n : Nat) (items : List (List Chunk)) (next : Bool) :
    (encodeArchive n items next).drop ((encodeArchive n items next).length - 12)
      = (Chunk.mk AEND []).encode := by
  rw [encodeArchive_archiveBytes, archiveBytes_length_chunks, Nat.add_sub_cancel, archiveBytes_split,
    ← List.append_assoc, List.drop_left' (by rw [List.length_append, sigAHED_length])]

/-- Appending new items to a written archive gives exactly the archive written from the
    old items followed by the new ones.  (Nothing is required of the new items for this byte
    equality; they must be well-formed for the result to read back, see `append_then_read`.) -/
theorem append_written (n : Nat) (hn : n < 2 ^ 32) (items : List (List Chunk))
    (hw : ∀ it ∈ items, ItemWF it) (hfit : ChunksFit items.flatten) (newItems : List (List Chunk)) :
    appendBytes (encodeArchive n items false) newItems.flatten
      = .ok (encodeArchive n (items ++ newItems) false) := by
  rw [encodeArchive_archiveBytes, appendBytes_archiveBytes n hn _ (anxtIf_fit hfit false)
      (anxtIf_noAEND ((items_clean hw).noAEND) false), encodeArchive_archiveBytes]
  simp [anxtIf]

/-- Reading the result returns the old raw items followed by the new ones, the
    entries `parseItems` makes of them, and ends cleanly when all of them parse. -/
theorem append_then_read (n : Nat) (hn : n < 2 ^ 32) (items newItems : List (List Chunk))
    (hw : ∀ it ∈ items, ItemWF it) (hfit : ChunksFit items.flatten)
    (hw2 : ∀ it ∈ newItems, ItemWF it) (hfit2 : ChunksFit newItems.flatten) :
    ∃ out, appendBytes (encodeArchive n items false) newItems.flatten = .ok out ∧
      (readArchiveStream out).rawItems = items ++ newItems ∧
      (readArchiveStream out).header = some ⟨0, 0, n⟩ ∧
      (readArchiveStream out).next = false ∧ (readArchiveStream out).carry = [] ∧
      (readArchiveStream out).entries = (parseItems (items ++ newItems)).1 ∧
      ((parseItems (items ++ newItems)).2 = .ok () → (readArchiveStream out).status = .ok ()) := by
  refine ⟨_, append_written n hn items hw hfit newItems, ?_⟩
  have hr : readArchiveStream (encodeArchive n (items ++ newItems) false) = _ :=
    readArchiveWith_encodeArchive n hn (items ++ newItems) (List.forall_mem_append.2 ⟨hw, hw2⟩)
      (by rw [List.flatten_append]; exact List.forall_mem_append.2 ⟨hfit, hfit2⟩) false
  rw [hr]
  refine ⟨rfl, rfl, rfl, rfl, rfl, ?_⟩
  intro h
  simp only [h]

/-- **Entry level**: appending serialised well-formed entries to an archive written from
    well-formed entries: reading the result returns all entries, old then new, and ends cleanly.
    (`NoMarkers` on the `extra` chunks is the hypothesis `readArchive_encode` needs.) -/
theorem append_entries_then_read (n : Nat) (hn : n < 2 ^ 32) (es news : List ReadEntry)
    (hw : ∀ e ∈ es ++ news, e.WF) (hx : ∀ e ∈ es ++ news, NoMarkers e.extra)
    (hfit : ChunksFit ((es ++ news).flatMap serEntry)) :
    ∃ out, appendBytes (encodeArchive n (es.map serEntry) false) (news.map serEntry).flatten = .ok out ∧
      (readArchiveStream out).entries = (es ++ news).map ReadEntry.recut ∧
      (readArchiveStream out).status = .ok () ∧
      (readArchiveStream out).rawItems = (es ++ news).map serEntry := by
  have hwi : ∀ it ∈ es.map serEntry, ItemWF it :=
    List.forall_mem_map.mpr fun e he => serEntry_ItemWF e (hx e (List.mem_append_left _ he))
  have hfi : ChunksFit (es.map serEntry).flatten := by
    intro c hc
    apply hfit c
    rw [List.flatMap_append, List.mem_append, List.flatMap_def]
    exact Or.inl hc
  refine ⟨_, append_written n hn (es.map serEntry) hwi hfi (news.map serEntry), ?_⟩
  rw [← List.map_append]
  have h := readArchive_encode n hn (es ++ news) hw hx hfit false
  exact ⟨h.1, h.2.1, h.2.2.2.2.2⟩

/-- When append succeeds, `seek_to_end` did (the converse is `appendBytes_of_ok`), and the file is: the old bytes
    before the end marker (at least 28 of them; the 8-byte head of the marker lies inside the file), the new chunks
    and AEND, and whatever the old file held behind the written range — nothing truncates. -/
theorem append_layout (bs : Bytes) (cs : List Chunk) (out : Bytes) (h : appendBytes bs cs = .ok out) :
    ∃ pos f, seekEnd bs = .ok (pos, f) ∧ 28 ≤ pos ∧ pos + 8 ≤ bs.length ∧
      out = bs.take pos ++ (encodeChunks cs ++ (Chunk.mk AEND []).encode)
              ++ bs.drop (pos + (encodeChunks cs ++ (Chunk.mk AEND []).encode).length) := by
  obtain ⟨pos, f, hs, rfl⟩ := appendBytes_ok_inv h
  have hb := seekEnd_ok_bound bs pos f hs
  exact ⟨pos, f, hs, hb.1, hb.2, by rw [overwriteAt, if_pos (by omega)]⟩

/-- For EVERY byte string: when append succeeds, every byte before the end marker stays
    where it was. -/
theorem append_keeps_prefix (bs : Bytes) (cs : List Chunk) (out : Bytes) (pos : Nat) (f : Bool)
    (h : appendBytes bs cs = .ok out) (hs : seekEnd bs = .ok (pos, f)) :
    out.take pos = bs.take pos := by
  have hb := seekEnd_ok_bound bs pos f hs
  rw [appendBytes_of_ok hs] at h
  rw [← Outcome.ok.inj h]
  exact overwriteAt_take bs pos _ (by omega)

/-- an error of `seek_to_end` is the error of append -/
theorem append_error (bs : Bytes) (cs : List Chunk) (e : Err) (h : seekEnd bs = .error e) :
    appendBytes bs cs = .error e := by
  rw [appendBytes_eq, h]; rfl

/-- the file never shrinks -/
theorem append_length (bs : Bytes) (cs : List Chunk) (out : Bytes) (h : appendBytes bs cs = .ok out) :
    bs.length ≤ out.length := by
  obtain ⟨pos, f, _, rfl⟩ := appendBytes_ok_inv h
  rw [overwriteAt_length]
  omega

/-- each `skip_chunk` that succeeds has read an 8-byte head and advances by at least 12 -/
theorem skipChunk_advances (r : Bytes) (ty : ChunkType) (n : Nat) (h : skipChunk r = .ok (ty, n)) :
    8 ≤ r.length ∧ 12 ≤ n := skipChunk_ok_inv r ty n h

/-- a position less than 8 bytes before the end, or beyond it, ends in `UnexpectedEof` -/
theorem seekEndGo_near_end_eof (fuel pos : Nat) (nx : Bool) (bs : Bytes) (h : bs.length < pos + 8) :
    seekEndGo (fuel + 1) pos nx bs = .error .eof := seekEndGo_short fuel pos nx bs h

/-- the loop does not run out of fuel when it has one unit per 12 bytes still ahead -/
theorem seekEndGo_total (fuel pos : Nat) (nx : Bool) (bs : Bytes)
    (hf : bs.length < pos + 8 + 12 * fuel) (s : String) :
    seekEndGo (fuel + 1) pos nx bs ≠ .panic s := seekEndGo_no_panic fuel pos nx bs hf s

/-- For EVERY byte string: `seekEnd` returns a position or an `io::Error`; it never panics
    and never needs more fuel than `bs.length + 1`: the loop terminates. -/
theorem seekEnd_total (bs : Bytes) (s : String) : seekEnd bs ≠ .panic s := seekEnd_no_panic bs s

theorem append_total (bs : Bytes) (cs : List Chunk) (s : String) : appendBytes bs cs ≠ .panic s := by
  rw [appendBytes_eq]
  cases h : seekEnd bs with
  | panic s2 => exact absurd h (seekEnd_no_panic bs s2)
  | _ => nofun

/-- **Truncation** (C06 / C07): every prefix of a written archive that stops before the 8-byte head of
    AEND is complete (`k < length - 4`; this includes every cut inside the signature, AHED or an
    entry) is refused with `UnexpectedEof`: append on a truncated archive fails, it does not spin
    and it does not write. -/
theorem seekEnd_truncated_eof (n : Nat) (hn : n < 2 ^ 32) (items : List (List Chunk))
    (hw : ∀ it ∈ items, ItemWF it) (hfit : ChunksFit items.flatten) (next : Bool) (k : Nat)
    (hk : k + 4 < (encodeArchive n items next).length) :
    seekEnd ((encodeArchive n items next).take k) = .error .eof := by
  rw [seekEnd_take _ _ _ (seekEnd_written n hn items hw hfit next), if_pos (by omega)]

theorem append_truncated_eof (n : Nat) (hn : n < 2 ^ 32) (items : List (List Chunk))
    (hw : ∀ it ∈ items, ItemWF it) (hfit : ChunksFit items.flatten) (next : Bool) (k : Nat)
    (hk : k + 4 < (encodeArchive n items next).length) (cs : List Chunk) :
    appendBytes ((encodeArchive n items next).take k) cs = .error .eof :=
  append_error _ cs _ (seekEnd_truncated_eof n hn items hw hfit next k hk)

/-- **The exception**: `skip_chunk` does not read the CRC, so a file that lacks its last
    `j ≤ 4` bytes — a cut INSIDE the CRC of AEND — is accepted: `seek_to_end` answers exactly what
    it answers on the complete archive.  (For `j ≥ 1` the readers refuse such a file:
    `reader_refuses_missing_aend_crc`.) -/
theorem seekEnd_accepts_missing_aend_crc (n : Nat) (hn : n < 2 ^ 32) (items : List (List Chunk))
    (hw : ∀ it ∈ items, ItemWF it) (hfit : ChunksFit items.flatten) (next : Bool) (j : Nat) (hj : j ≤ 4) :
    seekEnd ((encodeArchive n items next).take ((encodeArchive n items next).length - j))
      = .ok ((encodeArchive n items next).length - 12, next) := by
  rw [seekEnd_take _ _ _ (seekEnd_written n hn items hw hfit next),
    if_neg (by rw [encodeArchive_archiveBytes, archiveBytes_length_chunks]; omega)]

/-- the same file is NOT a complete archive for the reader: the chunk iterator ends in `UnexpectedEof` -/
theorem reader_refuses_missing_aend_crc (n : Nat) (items : List (List Chunk))
    (hw : ∀ it ∈ items, ItemWF it) (hfit : ChunksFit items.flatten) (next : Bool) (j : Nat)
    (hj1 : 1 ≤ j) (hj : j ≤ 4) :
    (chunksStream ((encodeArchive n items next).take ((encodeArchive n items next).length - j))).2
      = .error .eof := by
  rw [encodeArchive_archiveBytes]
  obtain ⟨toks, _, h⟩ := chunksStream_archiveBytes_cut n _ (anxtIf_fit hfit next)
    (anxtIf_noAEND ((items_clean hw).noAEND) next) ((archiveBytes n (items.flatten ++ anxtIf next)).length - j)
    (by rw [archiveBytes_length_chunks]; omega)
  rw [h]

/-- **Repair**: append on a file that lacks 1–4 bytes of the CRC of AEND still produces the
    well-formed archive: the cut AEND is overwritten and the new AEND is written whole — the result
    is byte for byte what append produces on the complete archive. -/
theorem append_missing_aend_crc (n : Nat) (hn : n < 2 ^ 32) (items : List (List Chunk))
    (hw : ∀ it ∈ items, ItemWF it) (hfit : ChunksFit items.flatten) (j : Nat) (hj : j ≤ 4)
    (newItems : List (List Chunk)) :
    appendBytes ((encodeArchive n items false).take ((encodeArchive n items false).length - j))
        newItems.flatten
      = .ok (encodeArchive n (items ++ newItems) false) := by
  rw [appendBytes_take _ _ _ (seekEnd_written n hn items hw hfit false) (by omega) _
      (by rw [encodeArchive_archiveBytes, archiveBytes_length_chunks]; omega),
    append_written n hn items hw hfit]

/-- … and that result reads back completely (old items, then new items) -/
theorem append_missing_aend_crc_reads (n : Nat) (hn : n < 2 ^ 32) (items newItems : List (List Chunk))
    (hw : ∀ it ∈ items, ItemWF it) (hfit : ChunksFit items.flatten)
    (hw2 : ∀ it ∈ newItems, ItemWF it) (hfit2 : ChunksFit newItems.flatten) (j : Nat) (hj : j ≤ 4) :
    ∃ out, appendBytes ((encodeArchive n items false).take ((encodeArchive n items false).length - j))
        newItems.flatten = .ok out ∧
      (readArchiveStream out).rawItems = items ++ newItems ∧
      (chunksStream out).2 = .ok () := by
  refine ⟨_, append_missing_aend_crc n hn items hw hfit j hj newItems, ?_⟩
  have hw3 : ∀ it ∈ items ++ newItems, ItemWF it := List.forall_mem_append.2 ⟨hw, hw2⟩
  have hfit3 : ChunksFit (items ++ newItems).flatten := by
    rw [List.flatten_append]
    exact List.forall_mem_append.2 ⟨hfit, hfit2⟩
  have hr : readArchiveStream (encodeArchive n (items ++ newItems) false) = _ :=
    readArchiveWith_encodeArchive n hn (items ++ newItems) hw3 hfit3 false
  rw [hr, chunksStream_encodeArchive n _ hw3 hfit3 false]
  exact ⟨rfl, rfl⟩

/-- `seek_to_end` looks at chunk heads only.  After signature and AHED, for ANY
    sequence of frames (a chunk head followed by a body of the announced size; the body — data and
    CRC — is arbitrary, no CRC has to be right), an AEND head with any length field and anything
    (or nothing) behind it is found, at the offset behind the frames. -/
theorem seekEnd_any_bodies (n : Nat) (hn : n < 2 ^ 32) (fs : List Frame) (hv : ∀ f ∈ fs, f.Valid)
    (hno : ∀ f ∈ fs, f.ty ≠ AEND) (l : Nat) (tail : Bytes) :
    seekEnd (signature ++ (Chunk.mk AHED (encAHED ⟨0, 0, n⟩)).encode ++ framesBytes fs
        ++ be32 l ++ AEND.toBytes ++ tail)
      = .ok (28 + (framesBytes fs).length, fs.any (·.ty == ANXT)) := by
  have := seekEnd_frames_aend n hn fs hv hno l tail
  simp only [List.append_assoc] at this ⊢
  exact this

/-- **Heads only**: two files whose frames agree in types and body lengths get the same
    answer, whatever their data and CRC bytes are. -/
theorem seekEnd_heads_only (n : Nat) (hn : n < 2 ^ 32) (fs gs : List Frame)
    (hv : ∀ f ∈ fs, f.Valid) (hno : ∀ f ∈ fs, f.ty ≠ AEND)
    (hv2 : ∀ f ∈ gs, f.Valid) (hno2 : ∀ f ∈ gs, f.ty ≠ AEND)
    (h : fs.map (fun f => (f.ty, f.body.length)) = gs.map (fun f => (f.ty, f.body.length)))
    (l l2 : Nat) (tail tail2 : Bytes) :
    seekEnd (signature ++ (Chunk.mk AHED (encAHED ⟨0, 0, n⟩)).encode ++ framesBytes fs
        ++ be32 l ++ AEND.toBytes ++ tail)
      = seekEnd (signature ++ (Chunk.mk AHED (encAHED ⟨0, 0, n⟩)).encode ++ framesBytes gs
        ++ be32 l2 ++ AEND.toBytes ++ tail2) := by
  rw [seekEnd_any_bodies n hn fs hv hno, seekEnd_any_bodies n hn gs hv2 hno2,
    (framesBytes_length_eq fs gs h).1, (framesBytes_length_eq fs gs h).2]

/-- In a written archive, altering any data or CRC byte of any chunk between AHED and AEND
    (`pre`, `c`, `post` split the chunk sequence; `p` is an offset inside `c` at or behind its 8-byte
    head) does not change `seek_to_end`'s answer: append does not notice the damage.
    (The readers do: `C05` — the CRC check of `read_chunk` fails.) -/
theorem seekEnd_ignores_crc (n : Nat) (hn : n < 2 ^ 32) (items : List (List Chunk))
    (hw : ∀ it ∈ items, ItemWF it) (hfit : ChunksFit items.flatten) (next : Bool)
    (pre : List Chunk) (c : Chunk) (post : List Chunk)
    (hsplit : items.flatten ++ (if next then [⟨ANXT, []⟩] else []) = pre ++ c :: post)
    (p : Nat) (hp1 : 28 + (encodeChunks pre).length + 8 ≤ p)
    (hp2 : p < 28 + (encodeChunks pre).length + c.encode.length) (v : UInt8) :
    seekEnd ((encodeArchive n items next).set p v) = seekEnd (encodeArchive n items next) := by
  obtain ⟨j, rfl⟩ : ∃ j, p = 28 + ((encodeChunks pre).length + (8 + j)) :=
    ⟨p - (28 + (encodeChunks pre).length + 8), by omega⟩
  have hb : items.flatten ++ anxtIf next = pre ++ c :: post := hsplit
  have hv : ∀ g ∈ (items.flatten ++ anxtIf next).map toFrame, g.Valid :=
    List.forall_mem_map.2 fun d hd => toFrame_valid d (anxtIf_fit hfit next d hd)
  have hno : ∀ g ∈ (items.flatten ++ anxtIf next).map toFrame, g.ty ≠ AEND :=
    List.forall_mem_map.2 (anxtIf_noAEND ((items_clean hw).noAEND) next)
  rw [encodeArchive_archiveBytes, archiveBytes_split, AEND_encode,
    ← framesBytes_map_toFrame (items.flatten ++ anxtIf next), ← framesBytes_map_toFrame pre]
  rw [hb, List.map_append, List.map_cons] at hv hno ⊢
  refine seekEnd_set_body n hn _ _ _ hv hno 0 _ j ?_ v
  rw [Chunk.encode_length] at hp2
  simp only [toFrame, List.length_append, be32_length]
  omega

/-- … and append on the altered archive succeeds and keeps every byte before the old end marker, the altered one at
    `p` included.  (That a reader refuses the result is shown for one instance among the examples.) -/
theorem append_keeps_damage (n : Nat) (hn : n < 2 ^ 32) (items : List (List Chunk))
    (hw : ∀ it ∈ items, ItemWF it) (hfit : ChunksFit items.flatten) (next : Bool)
    (pre : List Chunk) (c : Chunk) (post : List Chunk)
    (hsplit : items.flatten ++ (if next then [⟨ANXT, []⟩] else []) = pre ++ c :: post)
    (p : Nat) (hp1 : 28 + (encodeChunks pre).length + 8 ≤ p)
    (hp2 : p < 28 + (encodeChunks pre).length + c.encode.length) (v : UInt8) (new : List Chunk) :
    ∃ out, appendBytes ((encodeArchive n items next).set p v) new = .ok out ∧
      out.take ((encodeArchive n items next).length - 12)
        = ((encodeArchive n items next).set p v).take ((encodeArchive n items next).length - 12) ∧
      out[p]? = some v := by
  have hs := seekEnd_ignores_crc n hn items hw hfit next pre c post hsplit p hp1 hp2 v
  rw [seekEnd_written n hn items hw hfit next] at hs
  have hpl : p < (encodeArchive n items next).length - 12 := by
    rw [encodeArchive_archiveBytes, archiveBytes_length_chunks,
      show items.flatten ++ anxtIf next = pre ++ c :: post from hsplit, encodeChunks_append, encodeChunks_cons]
    simp only [List.length_append]
    omega
  have hk := overwriteAt_take ((encodeArchive n items next).set p v) ((encodeArchive n items next).length - 12)
    (encodeChunks new ++ (Chunk.mk AEND []).encode) (by rw [List.length_set]; omega)
  refine ⟨_, appendBytes_of_ok hs new, hk, ?_⟩
  rw [← List.getElem?_take_of_lt hpl, hk, List.getElem?_take_of_lt hpl, List.getElem?_set_self (by omega)]

/-- a file entry `a` with data 1 2 3 -/
def exItem1 : List Chunk := [⟨FHED, [0, 0, 0, 0, 0, 0, 97]⟩, ⟨FDAT, [1, 2, 3]⟩, ⟨FEND, []⟩]
/-- a file entry `b` with data 9 -/
def exItem2 : List Chunk := [⟨FHED, [0, 0, 0, 0, 0, 0, 98]⟩, ⟨FDAT, [9]⟩, ⟨FEND, []⟩]
/-- 86 bytes: signature 0‥8, AHED 8‥28, FHED 28‥47, FDAT 47‥62 (data 55‥58, CRC 58‥62), FEND 62‥74, AEND 74‥86 -/
def exArch : Bytes := encodeArchive 0 [exItem1] false

theorem ex_wf1 : ∀ it ∈ [exItem1], ItemWF it := by decide
theorem ex_wf2 : ∀ it ∈ [exItem2], ItemWF it := by decide
theorem ex_fit1 : ChunksFit [exItem1].flatten := by decide
theorem ex_fit2 : ChunksFit [exItem2].flatten := by decide

theorem exArch_length : exArch.length = 86 := by decide +kernel
example : exArch.length = 86 := exArch_length

example : seekEnd exArch = .ok (74, false) := by decide +kernel
example : seekEnd (encodeArchive 0 [exItem1] true) = .ok (86, true) := by decide +kernel
example : seekEnd (encodeArchive 0 [exItem1] true) = .ok ((encodeArchive 0 [exItem1] true).length - 12, true) :=
  seekEnd_written 0 (by decide) [exItem1] ex_wf1 ex_fit1 true
example : exArch.drop 74 = (Chunk.mk AEND []).encode := by decide +kernel

example : appendBytes exArch exItem2 = .ok (encodeArchive 0 [exItem1, exItem2] false) := by decide +kernel
example : appendBytes exArch [exItem2].flatten = .ok (encodeArchive 0 ([exItem1] ++ [exItem2]) false) :=
  append_written 0 (by decide) [exItem1] ex_wf1 ex_fit1 [exItem2]
example : ∃ out, appendBytes exArch [exItem2].flatten = .ok out ∧
    (readArchiveStream out).rawItems = [exItem1, exItem2] := by
  obtain ⟨out, h1, h2, _⟩ := append_then_read 0 (by decide) [exItem1] [exItem2] ex_wf1 ex_fit1 ex_wf2 ex_fit2
  exact ⟨out, h1, h2⟩
example : (match appendBytes exArch exItem2 with
    | .ok out => ((readArchiveStream out).entries.length, (readArchiveStream out).status)
    | _ => (0, .error .other)) = (2, .ok ()) := by decide +kernel
-- entry level: the same two items as serialised entries
def exE1 : NormalEntry :=
  { header := ⟨0, 0, 0, 0, 0, 0, [97]⟩, phsf := none, extra := [], data := [[1, 2, 3]], md := {}, xattrs := [] }
def exE2 : NormalEntry :=
  { header := ⟨0, 0, 0, 0, 0, 0, [98]⟩, phsf := none, extra := [], data := [[9]], md := {}, xattrs := [] }
example : serEntry (.normal exE1) = exItem1 ∧ serEntry (.normal exE2) = exItem2 := by decide +kernel
theorem exE1_wf : exE1.WF := parseN_WF _ exE1 (by decide +kernel : parseN (serN exE1) = .ok exE1)
theorem exE2_wf : exE2.WF := parseN_WF _ exE2 (by decide +kernel : parseN (serN exE2) = .ok exE2)
example : ∃ out, appendBytes (encodeArchive 0 ([ReadEntry.normal exE1].map serEntry) false)
      ([ReadEntry.normal exE2].map serEntry).flatten = .ok out ∧
    (readArchiveStream out).entries = [ReadEntry.normal exE1.recut, ReadEntry.normal exE2.recut] ∧
    (readArchiveStream out).status = .ok () := by
  obtain ⟨out, h1, h2, h3, _⟩ := append_entries_then_read 0 (by decide) [.normal exE1] [.normal exE2]
    (List.forall_mem_cons.2 ⟨exE1_wf, List.forall_mem_singleton.2 exE2_wf⟩) (by decide) (by decide +kernel)
  exact ⟨out, h1, h2, h3⟩
-- with ANXT: the flag is reported, and the appended entry lands between ANXT and the new AEND
example : appendBytes (encodeArchive 0 [exItem1] true) exItem2
    = .ok (signature ++ encodeChunks ([⟨AHED, encAHED ⟨0, 0, 0⟩⟩] ++ exItem1 ++ [⟨ANXT, []⟩] ++ exItem2 ++ [⟨AEND, []⟩])) := by
  decide +kernel

-- on a file that is no written archive: trailing junk behind AEND.  The prefix is kept, the
-- junk behind the written range stays (nothing truncates); readers stop at AEND.
theorem exJunk_append : appendBytes (exArch ++ List.replicate 60 7) exItem2
    = .ok (encodeArchive 0 [exItem1, exItem2] false ++ List.replicate 16 7) := by decide +kernel
theorem exJunk_seekEnd : seekEnd (exArch ++ List.replicate 60 7) = .ok (74, false) := by decide +kernel
example : appendBytes (exArch ++ List.replicate 60 7) exItem2
    = .ok (encodeArchive 0 [exItem1, exItem2] false ++ List.replicate 16 7) := exJunk_append
example : seekEnd (exArch ++ List.replicate 60 7) = .ok (74, false) ∧
    (match appendBytes (exArch ++ List.replicate 60 7) exItem2 with
     | .ok out => out.take 74 == (exArch ++ List.replicate 60 7).take 74
     | _ => false) = true := by
  rw [exJunk_append]
  exact ⟨exJunk_seekEnd, by decide +kernel⟩

-- every prefix that stops before byte 82 (the end of AEND's head) is refused with eof …
example : ∀ k < 82, seekEnd (exArch.take k) = .error .eof := fun k hk =>
  seekEnd_truncated_eof 0 (by decide) [exItem1] ex_wf1 ex_fit1 false k
    (exArch_length ▸ Nat.add_lt_add_right hk 4)
example : ∀ k ∈ [0, 7, 8, 27, 28, 50, 74, 81], appendBytes (exArch.take k) exItem2 = .error .eof := by decide +kernel
example : seekEnd (exArch.take 50) = .error .eof :=
  seekEnd_truncated_eof 0 (by decide) [exItem1] ex_wf1 ex_fit1 false 50 (by decide +kernel)
-- … and never panics on junk either
example : seekEnd [] = .error .eof ∧ seekEnd (List.replicate 40 0) = .error .invalidData ∧
    seekEnd (signature ++ List.replicate 40 0) = .error .invalidData := by decide +kernel
-- … but a file that lacks 1–4 bytes of AEND's CRC is accepted, although the chunk reader ends in `UnexpectedEof`
--   on it, and append then writes the archive that append on the complete file writes
example : ∀ j ≤ 4, seekEnd (exArch.take (86 - j)) = .ok (74, false) := fun j hj => by
  have h := seekEnd_accepts_missing_aend_crc 0 (by decide) [exItem1] ex_wf1 ex_fit1 false j hj
  rwa [← exArch, exArch_length] at h
example : ∀ j ≤ 4, 1 ≤ j → (chunksStream (exArch.take (86 - j))).2 = .error .eof := fun j hj hj1 =>
  exArch_length ▸ reader_refuses_missing_aend_crc 0 [exItem1] ex_wf1 ex_fit1 false j hj1 hj
example : ∀ j ≤ 4, appendBytes (exArch.take (86 - j)) exItem2
    = .ok (encodeArchive 0 [exItem1, exItem2] false) := fun j hj =>
  exArch_length ▸ append_missing_aend_crc 0 (by decide) [exItem1] ex_wf1 ex_fit1 j hj [exItem2]
example : seekEnd ((encodeArchive 0 [exItem1] false).take ((encodeArchive 0 [exItem1] false).length - 3))
    = .ok ((encodeArchive 0 [exItem1] false).length - 12, false) :=
  seekEnd_accepts_missing_aend_crc 0 (by decide) [exItem1] ex_wf1 ex_fit1 false 3 (by decide)

-- a data byte (56) or a CRC byte (60) of FDAT altered: same answer; the reader reports the damage
example : seekEnd (exArch.set 56 0xFF) = .ok (74, false) ∧ seekEnd (exArch.set 60 0xFF) = .ok (74, false) := by
  decide +kernel
example : (readArchiveStream (exArch.set 56 0xFF)).status = .error .invalidData := by decide +kernel
example : seekEnd (exArch.set 56 0xFF) = seekEnd exArch :=
  seekEnd_ignores_crc 0 (by decide) [exItem1] ex_wf1 ex_fit1 false
    [⟨FHED, [0, 0, 0, 0, 0, 0, 97]⟩] ⟨FDAT, [1, 2, 3]⟩ [⟨FEND, []⟩] rfl 56 (by decide +kernel) (by decide +kernel) 0xFF
-- append on it succeeds and the damage stays in the result, which `readArchiveStream` refuses
example : (match appendBytes (exArch.set 56 0xFF) exItem2 with
    | .ok out => (out[56]?, (readArchiveStream out).status)
    | _ => (none, .ok ())) = (some 0xFF, .error .invalidData) := by decide +kernel
-- frames with arbitrary bodies (no CRC is right here), AEND with a non-zero length field and no CRC at all
example : seekEnd (signature ++ (Chunk.mk AHED (encAHED ⟨0, 0, 0⟩)).encode
      ++ framesBytes [⟨FDAT, [1, 2, 3, 0, 0, 0, 0]⟩, ⟨ANXT, [0, 0, 0, 0]⟩] ++ be32 5 ++ AEND.toBytes ++ [])
    = .ok (28 + 15 + 12, true) := by decide +kernel
-- a damaged LENGTH field is not noticed either: byte 31 (length of FHED, 7) set to 15 makes the walk
-- land inside the data of the next chunk; if those bytes look like an AEND head, append writes there
example : seekEnd ((encodeArchive 0 [[⟨FHED, [0, 0, 0, 0, 0, 0, 97]⟩,
      ⟨FDAT, [0, 0, 0, 0, 65, 69, 78, 68, 1, 2, 3, 4]⟩, ⟨FEND, []⟩]] false).set 31 15) = .ok (55, false) := by
  decide +kernel

-- the hypotheses of the remaining theorems, instantiated
example : skipChunk (exArch.drop 28) = .ok (FHED, 19) ∧ skipChunk (exArch.drop 74) = .ok (AEND, 12) := by
  decide +kernel
example : ((encodeArchive 0 [exItem1, exItem2] false ++ List.replicate 16 7).take 74)
    = (exArch ++ List.replicate 60 7).take 74 :=
  append_keeps_prefix (exArch ++ List.replicate 60 7) exItem2 _ 74 false exJunk_append exJunk_seekEnd
example : appendBytes [] exItem2 = .error .eof := append_error [] exItem2 .eof (by decide +kernel)
example : appendBytes (exArch.take (exArch.length - 2)) [exItem2].flatten
    = .ok (encodeArchive 0 ([exItem1] ++ [exItem2]) false) :=
  append_missing_aend_crc 0 (by decide) [exItem1] ex_wf1 ex_fit1 2 (by decide) [exItem2]
example := append_missing_aend_crc_reads 0 (by decide) [exItem1] [exItem2] ex_wf1 ex_fit1 ex_wf2 ex_fit2 4 (by decide)
example : (chunksStream (exArch.take (exArch.length - 1))).2 = .error .eof :=
  reader_refuses_missing_aend_crc 0 [exItem1] ex_wf1 ex_fit1 false 1 (by decide) (by decide)
example : seekEnd (signature ++ (Chunk.mk AHED (encAHED ⟨0, 0, 0⟩)).encode
      ++ framesBytes [⟨FDAT, [1, 2, 3, 0, 0, 0, 0]⟩] ++ be32 0 ++ AEND.toBytes ++ [1])
    = seekEnd (signature ++ (Chunk.mk AHED (encAHED ⟨0, 0, 0⟩)).encode
      ++ framesBytes [⟨FDAT, [7, 7, 7, 7, 7, 7, 7]⟩] ++ be32 9 ++ AEND.toBytes ++ []) :=
  seekEnd_heads_only 0 (by decide) [⟨FDAT, [1, 2, 3, 0, 0, 0, 0]⟩] [⟨FDAT, [7, 7, 7, 7, 7, 7, 7]⟩]
    (by decide) (by decide) (by decide) (by decide) (by decide) 0 9 [1] []
example : ∃ out, appendBytes (exArch.set 60 0xFF) exItem2 = .ok out ∧
    out.take (exArch.length - 12) = (exArch.set 60 0xFF).take (exArch.length - 12) ∧ out[60]? = some 0xFF :=
  append_keeps_damage 0 (by decide) [exItem1] ex_wf1 ex_fit1 false
    [⟨FHED, [0, 0, 0, 0, 0, 0, 97]⟩] ⟨FDAT, [1, 2, 3]⟩ [⟨FEND, []⟩] rfl 60 (by decide +kernel) (by decide +kernel)
    0xFF exItem2

end Pna.C11A
