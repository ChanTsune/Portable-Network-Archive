import PnaVerif.Lemmas.Create
/-!
# C02 — `pna create` then `pna extract` reproduces the directory tree

`expectedTree o t` (Model/Cli/Create.lean) is what the model says is found in an empty output
directory after `pna create` on the tree `t` followed by `pna extract`.  The model has **no**
parameter for compression, encryption, key derivation, solid mode, splitting or stdio transport:
that the real commands' result does not depend on them is exactly what the `cli-tree`
correspondence family checks on every run (the real `pna` under the whole option product against
this one function).  The theorems below state what the expected tree *is*, relative to the source
tree, for every tree and every subset of the keep options:

* `files_and_links_reproduced` — every regular file and symbolic link of the source is present,
  same kind, byte-identical content / link target, at its (sanitised) path;
* `sanitized_path_kept` — and that path is the source path when the walked path is already clean;
* `kept_dirs_reproduced` — with `--keep-dir` every directory (empty ones included) is present;
* `nothing_invented` — every object of the result is a restored source object or a directory
  that is a proper ancestor of one;
* `permissions_restored`, `mtime_restored` — with the keep option on both sides the permission
  bits (files, directories) and the modification time (files) are those of the source;
* `not_restored_without_option` — without the option on either side the field of the expected object is
  `none` (not compared).
-/
namespace Pna.C02
open Pna Pna.Cli

theorem files_and_links_reproduced (o : CXOpts) (t : List TNode) (n : TNode) (h : n ∈ t) (hk : n.kind ≠ 1) :
    ∃ x ∈ expectedTree o t, x.path = sanitize n.path ∧ x.kind = n.kind ∧ x.content = n.content := by
  refine ⟨restoredNode o n, restored_mem o t n h (Or.inr hk), rfl, rfl, ?_⟩
  simp [restoredNode, hk]

theorem sanitized_path_kept (o : CXOpts) (n : TNode) (h : sanitize n.path = n.path) :
    (restoredNode o n).path = n.path := h

theorem kept_dirs_reproduced (o : CXOpts) (t : List TNode) (hkd : o.keepDir = true) (n : TNode) (h : n ∈ t) :
    ∃ x ∈ expectedTree o t, x.path = sanitize n.path ∧ x.kind = n.kind :=
  ⟨restoredNode o n, restored_mem o t n h (Or.inl hkd), rfl, rfl⟩

theorem nothing_invented (o : CXOpts) (t : List TNode) (x : XNode) (h : x ∈ expectedTree o t) :
    (∃ n ∈ t, (o.keepDir = true ∨ n.kind ≠ 1) ∧ x = restoredNode o n) ∨
    (x.kind = 1 ∧ x.content = [] ∧ x.mode = none ∧ x.mtime = none ∧
      ∃ n ∈ t, (o.keepDir = true ∨ n.kind ≠ 1) ∧ x.path ∈ ancestors (sanitize n.path)) := by
  rcases List.mem_append.1 h with h | h
  · obtain ⟨n, hn, rfl⟩ := List.mem_map.mp h
    exact Or.inl ⟨n, (mem_archived.1 hn).1, (mem_archived.1 hn).2, rfl⟩
  · obtain ⟨hx, ⟨y, hy, hyd⟩, _⟩ := (mem_impliedDirs _ x).1 h
    obtain ⟨n, hn, rfl⟩ := List.mem_map.mp hy
    exact Or.inr ⟨congrArg XNode.kind hx, congrArg XNode.content hx, congrArg XNode.mode hx,
      congrArg XNode.mtime hx, n, (mem_archived.1 hn).1, (mem_archived.1 hn).2, hyd⟩

theorem permissions_restored (o : CXOpts) (n : TNode) (hc : o.keepPermissionC = true) (hx : o.keepPermissionX = true)
    (hk : n.kind ≠ 2) : (restoredNode o n).mode = some n.mode := by
  simp [restoredNode, hc, hx, hk]

theorem mtime_restored (o : CXOpts) (n : TNode) (hc : o.keepTimestampC = true) (hx : o.keepTimestampX = true)
    (hk : n.kind = 0) : (restoredNode o n).mtime = some n.mtime := by
  simp [restoredNode, hc, hx, hk]

theorem not_restored_without_option (o : CXOpts) (n : TNode) :
    ((o.keepPermissionC = false ∨ o.keepPermissionX = false) → (restoredNode o n).mode = none) ∧
    ((o.keepTimestampC = false ∨ o.keepTimestampX = false) → (restoredNode o n).mtime = none) := by
  constructor
  · rintro (h | h) <;> simp [restoredNode, h]
  · rintro (h | h) <;> simp [restoredNode, h]

/-- the kind of an object never changes on the way through the archive -/
theorem kinds_kept (o : CXOpts) (n : TNode) : (restoredNode o n).kind = n.kind := rfl

-- non-vacuity: a tree with a nested file, an empty directory and a dangling link
def exTree : List TNode :=
  [⟨[116], 1, [], 493, 0⟩, ⟨[116, 47, 97], 0, [1, 2, 3], 420, 1000⟩, ⟨[116, 47, 101], 1, [], 448, 0⟩,
   ⟨[116, 47, 108], 2, [110, 111], 511, 0⟩]

example : (expectedTree ⟨false, true, true, true, true⟩ exTree).map (fun x => (x.path, x.kind, x.mode, x.mtime)) =
    [([116, 47, 97], 0, some 420, some 1000), ([116, 47, 108], 2, none, none), ([116], 1, none, none)] := by
  decide +kernel

example : ((expectedTree ⟨true, false, false, true, true⟩ exTree).map (·.path)) =
    [[116], [116, 47, 97], [116, 47, 101], [116, 47, 108]] := by decide +kernel

end Pna.C02
