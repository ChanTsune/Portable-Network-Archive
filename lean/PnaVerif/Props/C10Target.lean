import PnaVerif.Props.C15Part
/-!
# C10 / C11 — an editing command writes its result to the archive it was given
`chmod`, `chown`, `xattr`, `acl`, `strip`, `delete`, `migrate` and `update` write to `archive.remove_part()`
(so that a command given the first part of a part set leaves one part-less archive).  The result path must be
the archive itself whenever its name carries no `.partN` marker.
* `removeExt_unmarked`, `removeExt_no_ext` — for EVERY file name whose extension and whose stem's extension are
  not `part` + decimal digits, the name is returned unchanged;
* `removePart_unmarked` — the same on paths `dir/name`;
* `legacy_*` — the code before the `fix:` tested `starts_with("part")`: `x.partial.pna` was rewritten as
  `x.pna` (an unrelated file was replaced, the archive itself left stale); kernel-checked witnesses, reproduced on
  the binary before the fix.
-/
namespace Pna.C10T
open Pna.Cli.PartName

theorem removeExt_no_ext (name stem : Str) (h : splitExt name = some (stem, none)) : removeExt name = some name := by
  simp only [removeExt, h]

theorem removeExt_unmarked (name stem e : Str) (h : splitExt name = some (stem, some e)) (he : isPartMarker e = false)
    (hs : ∀ st2 may, splitExt stem = some (st2, some may) → isPartMarker may = false) : removeExt name = some name := by
  simp only [removeExt, h, he, Bool.false_eq_true, if_false]
  cases hst : splitExt stem with
  | none => rfl
  | some p =>
    obtain ⟨st2, x⟩ := p
    cases x with
    | none => rfl
    | some may => simp only [hs st2 may hst, Bool.false_eq_true, if_false]

theorem removePart_unmarked (dir name stem e : Str) (hd : DirPrefix dir) (hn : '/' ∉ name)
    (h : splitExt name = some (stem, some e)) (he : isPartMarker e = false)
    (hs : ∀ st2 may, splitExt stem = some (st2, some may) → isPartMarker may = false) :
    removePart (dir ++ name) = some (dir ++ name) := by
  rw [C15Part.removePart_simple dir name hd hn, removeExt_unmarked name stem e h he hs]; rfl

/-- the transcription of `remove_part_n` before the fix -/
def removeExtLegacy (name : Str) : Option Str :=
  match splitExt name with
  | none => none
  | some (_, none) => some name
  | some (stem, some e) =>
    if partPrefix.isPrefixOf e then some stem
    else match splitExt stem with
      | some (_, some may) => if partPrefix.isPrefixOf may then some (withExtension stem e) else some name
      | _ => some name

-- `"lit".toList` is rewritten to the list of its characters by `String.toList_ofList` first: evaluating it makes
-- the kernel encode and decode UTF-8, some ten thousand heartbeats a character, growing with the length
theorem legacy_partial_misnamed : removeExtLegacy "x.partial.pna".toList = some "x.pna".toList := by
  repeat rw [String.toList_ofList]
  decide +kernel
theorem legacy_partly_truncated : removeExtLegacy "notes.partly".toList = some "notes".toList := by
  repeat rw [String.toList_ofList]
  decide +kernel

example : removeExt "x.partial.pna".toList = some "x.partial.pna".toList := by
  repeat rw [String.toList_ofList]
  decide +kernel
example : removePart "dir/notes.partly".toList = some "dir/notes.partly".toList := by
  repeat rw [String.toList_ofList]
  decide +kernel
example : removePart "dir/a.part12.pna".toList = some "dir/a.pna".toList := by
  repeat rw [String.toList_ofList]
  decide +kernel
example : removePart "dir/x.partial.pna".toList = some "dir/x.partial.pna".toList := by
  have h := removePart_unmarked "dir/".toList "x.partial.pna".toList "x.partial".toList "pna".toList
  repeat rw [String.toList_ofList] at h
  repeat rw [String.toList_ofList]
  refine h (by decide) (by decide) (by decide +kernel) (by decide) fun st2 may hs => ?_
  cases hs
  decide

end Pna.C10T
