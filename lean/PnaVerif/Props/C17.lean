import PnaVerif.Model.Cli.List
/-!
# C17 — list, extract and the library agree on what an archive contains
Model: `listRows` (row production of `run_list_archive` + the glob filter of `print_entries`)
and the renderers `plainOut`, `treeOut`.  (The JSON-lines format has no definition in the model: the fields compared
for it are put together in `Wire.handleList`, and no theorem speaks of it.)
* `agree_with_library` — with `--solid` (or when the archive has no solid block) the rows are
  exactly the library's entries (`entries_with_password`) that the patterns select, in order;
* `without_solid` — without `--solid` the listing omits exactly the entries held in solid blocks;
* `plain_lines` — the plain format prints one line per row, in order, beginning with the name;
* `selection_commutes` — filtering by patterns and dropping solid entries commute (the code
  filters after collection, extraction filters before: same set).
The renderers are tied to the real output byte for byte (plain, tree) by the `list` family.
-/
namespace Pna.C17
open Pna Pna.Cli

theorem agree_with_library (sel : Bytes → Bool) (a : List (Bool × Row)) :
    listRows true sel a = (a.map (·.2)).filter (fun r => sel r.name) := by
  unfold listRows
  have : a.filter (fun p => !p.1 || true) = a := by
    apply List.filter_eq_self.mpr
    intro p _; simp
  rw [this]

theorem agree_when_no_solid (solidFlag : Bool) (sel : Bytes → Bool) (a : List (Bool × Row))
    (h : ∀ p ∈ a, p.1 = false) : listRows solidFlag sel a = (a.map (·.2)).filter (fun r => sel r.name) := by
  unfold listRows
  have : a.filter (fun p => !p.1 || solidFlag) = a := by
    apply List.filter_eq_self.mpr
    intro p hp; simp [h p hp]
  rw [this]

theorem without_solid (sel : Bytes → Bool) (a : List (Bool × Row)) :
    listRows false sel a = listRows true sel (a.filter (fun p => !p.1)) := by
  simp [listRows, List.filter_filter]

theorem selection_commutes (solidFlag : Bool) (sel : Bytes → Bool) (a : List (Bool × Row)) :
    listRows solidFlag sel a = listRows solidFlag (fun _ => true) (a.filter (fun p => sel p.2.name)) := by
  unfold listRows
  rw [List.filter_map, List.filter_filter, List.filter_filter, List.filter_eq_self.2 fun _ _ => rfl]
  congr 2
  funext p
  exact Bool.and_comm _ _

/-- every listed row is a library entry the patterns select — nothing is invented -/
theorem listed_sound (solidFlag : Bool) (sel : Bytes → Bool) (a : List (Bool × Row)) :
    ∀ r ∈ listRows solidFlag sel a, sel r.name = true ∧ ∃ p ∈ a, p.2 = r := by
  intro r hr
  simp only [listRows, List.mem_filter, List.mem_map] at hr
  obtain ⟨⟨p, ⟨hp, _⟩, rfl⟩, hs⟩ := hr
  exact ⟨hs, p, hp, rfl⟩

theorem plain_lines (classify : Bool) (rows : List Row) :
    plainOut classify rows = (rows.map fun r => plainLine classify r ++ [nl]).flatten := by
  simp [plainOut, List.flatMap]

theorem plain_line_starts_with_name (classify : Bool) (r : Row) : r.name <+: plainLine classify r := by
  fun_cases plainLine classify r <;> simp [List.append_assoc]

-- mixed archive: one normal entry, one solid entry; patterns select both
example : (listRows false (fun _ => true) [(false, ⟨[97], 0, [], none, 0⟩), (true, ⟨[98], 0, [], none, 0⟩)]).map (·.name) = [[97]] := by decide
example : (listRows true (fun _ => true) [(false, ⟨[97], 0, [], none, 0⟩), (true, ⟨[98], 0, [], none, 0⟩)]).map (·.name) = [[97], [98]] := by decide
-- tree of a/b and a/c
example : treeOut false [⟨[97,47,98], 0, [], none, 0⟩, ⟨[97,47,99], 0, [], none, 0⟩]
    = [46, 10] ++ branchLast ++ [97, 10] ++ blankPad ++ branchMid ++ [98, 10] ++ blankPad ++ branchLast ++ [99, 10] := by
  decide +kernel

end Pna.C17
