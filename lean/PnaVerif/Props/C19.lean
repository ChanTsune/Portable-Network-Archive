import PnaVerif.Lemmas.Sched
import PnaVerif.Generated.Shapes
/-!
# C19 — results do not depend on worker-thread count or scheduling

`Generated.shapes` is regenerated from cli/src/command/*.rs on every run (`pnah shapes`, a syn-based
walk of the sources): every place that hands work to the thread pool, with its syntactic shape.
The transition system of Model/Cli/Sched.lean gives each shape its behaviours under every schedule
(any number of workers, any interleaving of task completions).

The code uses `for item { pool.scope_fifo(|s| s.spawn_fifo(..)) }`, under which results arrive in
submission order in every run (`scope_per_item_order`).  `inventory_ok` is a kernel evaluation over
today's inventory: every site of create, append, update and extract has that shape or the
single-task one; elsewhere (`list.rs`) an indexed parallel collect is admitted too — order kept by
rayon, trusted.  `commands_covered` keeps `every_pipeline_is_ordered` from being vacuous and notices
pool code that moves elsewhere.  `*_breaks_order`: the "harmless-looking parallelisation" (one
scope around the loop, detached spawns, an unordered parallel iterator) admits a schedule that
reorders the results.
-/
namespace Pna.C19
open Pna.Cli.Sched Pna.Generated

theorem scope_per_item_order (n : Nat) (tr : List Ev) (s : St)
    (h : run .scopePerItem n {} tr = some s) (hf : Final n s) : s.chan = List.range n :=
  scopePerItem_deterministic n tr s h hf

/-- shapes whose order is fixed by theorem (`ordered`) or by rayon's indexed collect (`trusted`) -/
def ordered (sh : Shape) : Bool := sh == .scopePerItem || sh == .single
def trusted (sh : Shape) : Bool := sh == .parIterCollect

theorem ordered_deterministic (sh : Shape) (h : ordered sh = true) : Deterministic sh := by
  cases sh <;> simp [ordered] at h
  · exact scopePerItem_deterministic
  · exact single_deterministic

theorem inventory_ok : shapes.all (fun r => if r.cmd == .other then ordered r.shape || trusted r.shape else ordered r.shape) = true := by
  decide

theorem every_pipeline_is_ordered (r : Site) (hr : r ∈ shapes) (hc : r.cmd ≠ .other) : Deterministic r.shape := by
  have h := List.all_eq_true.mp inventory_ok r hr
  have hc' : (r.cmd == Cmd.other) = false := by simpa using hc
  simp only [hc', Bool.false_eq_true, ↓reduceIte] at h
  exact ordered_deterministic _ h

theorem commands_covered : [Cmd.create, Cmd.append, Cmd.update, Cmd.extract].all (fun c => shapes.any (fun r => r.cmd == c)) = true := by
  decide

theorem parallel_loop_breaks_order : ¬ Deterministic .scopeAroundLoop := scopeAroundLoop_not_deterministic
theorem detached_breaks_order : ¬ Deterministic .detached := not_deterministic_of_run (by decide)
theorem unordered_par_iter_breaks_order : ¬ Deterministic .parIterUnordered := not_deterministic_of_run (by decide)

-- `scope_per_item_order` is not vacuous: a schedule that reaches a final state
example : run .scopePerItem 3 {} [.spawn, .finish 0, .spawn, .finish 1, .spawn, .finish 2] = some ⟨3, [], [0, 1, 2]⟩ := by decide
-- the per-item shape refuses to submit while a task is running
example : run .scopePerItem 3 {} [.spawn, .spawn] = none := by decide
-- the witness schedule for one scope around the loop
example : run .scopeAroundLoop 2 {} [.spawn, .spawn, .finish 1, .finish 0] = some ⟨2, [], [1, 0]⟩ := by decide

end Pna.C19
