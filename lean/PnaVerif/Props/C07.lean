import PnaVerif.Lemmas.NoPanic
import PnaVerif.Props.C03
import PnaVerif.Props.C06
/-!
# C07 — no input makes a reader panic or hang (framing / parsing layer)
Every model function is total (Lean accepts the definitions: structural recursion or a fuel
bound proved sufficient), which is the "terminates" half; the theorems below are the "never
panics" half, for every byte string and every carry buffer: both chunk iterators, both entry
readers, every header/metadata decoder and the entry parsers.  The entry iterator
inside a solid block is in `Props/C07Solid.lean` (`solid_no_panic`), key derivation and opening an entry's data in
`Props/C16.lean` (`deriveKey_no_panic`, `open_no_panic`).
The `panic` outcome is how the model represents every `unwrap`/`split_at`/index/overflow
site of the Rust code; sites that the `fix:` commits removed are modelled as the errors
the fixed code returns, and the correspondence families fail if a panic reappears.
-/
namespace Pna.C07
open Pna

theorem chunk_parsers_total (bs : Bytes) :
    (decodeStream bs).isPanic = false ∧ (decodeSlice bs).isPanic = false :=
  C06.parser_never_panics bs

theorem chunk_iterators_total (bs : Bytes) :
    (chunksStream bs).2.isPanic = false ∧ (chunksSlice bs).2.isPanic = false := by
  refine ⟨chunksStream_no_panic bs, ?_⟩
  rw [chunksSlice_eq_chunksStream]; exact chunksStream_no_panic bs

theorem decoders_total (bs : Bytes) :
    (decAHED bs).isPanic = false ∧ (decFHED bs).isPanic = false ∧ (decSHED bs).isPanic = false ∧
    (decTime bs).isPanic = false ∧ (decFPRM bs).isPanic = false ∧ (decXATR bs).isPanic = false :=
  ⟨decAHED_no_panic bs, decFHED_no_panic bs, decSHED_no_panic bs, decTime_no_panic bs,
   decFPRM_no_panic bs, decXATR_no_panic bs⟩

theorem entry_parsers_total (raw : List Chunk) :
    (parseN raw).isPanic = false ∧ (parseS raw).isPanic = false ∧ (parseEntry raw).isPanic = false :=
  ⟨parseN_no_panic raw, parseS_no_panic raw, parseEntry_no_panic raw⟩

/-- Both archive readers, any carry buffer (i.e. any position in a multipart sequence). -/
theorem archive_readers_total (carry : List Chunk) (bs : Bytes) :
    (readArchiveWith chunksStream carry bs).status.isPanic = false ∧
    (readArchiveWith chunksSlice carry bs).status.isPanic = false := by
  refine ⟨readArchiveWith_no_panic carry bs, ?_⟩
  rw [C03.chunksSlice_funext]; exact readArchiveWith_no_panic carry bs

-- non-vacuity: a hostile xATR (declared name length 9, one byte present) is an error, not a panic
example : decXATR [0, 0, 0, 9, 97] = .error .eof := by decide
-- AHED number u32::MAX followed by any part: rejected, not overflowed
example : (readNextWith chunksStream (2 ^ 32 - 1) []
    (signature ++ (Chunk.mk ChunkType.AHED (encAHED ⟨0, 0, 0⟩)).encode ++ (Chunk.mk ChunkType.AEND []).encode)).status
    = .error .invalidData := by decide +kernel

end Pna.C07
