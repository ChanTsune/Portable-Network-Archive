import PnaVerif.Lemmas.SplitRead
import PnaVerif.Lemmas.RawCopy
import PnaVerif.Lemmas.Grouping
import PnaVerif.Props.C04Multipart
import PnaVerif.Props.C03Recut
/-!
# C04 (read back) and `pna concat`

`Props/C04Multipart.lean` shows that reading the part files of a split in sequence is reading ONE archive that
holds the concatenated part bodies, and `Props/C03Recut.lean` that the readers cannot tell chunk sequences apart
that differ only in where data chunks are cut.  Together with the archive round trip (`Lemmas/ArchiveRt.lean`, `Lemmas/EntryRt.lean`):

**Part A — "read in sequence, the parts yield exactly the original entries with identical contents"**
* `split_read_same_entries`  the multipart reader on the parts of `writeSplit entries` returns the same number of
                             entries as the single-archive reader on the unsplit archive, pairwise the same up to
                             the cutting of their data (`SameE`), and the same success / error;
* `split_read_entries`       for entries written from `ReadEntry` values: status ok, and the entries themselves
                             come back (`SameE`);
* `split_read_contents`      … so every normal entry decodes to identical contents, for every cipher / codec / key.

**Part B — `pna concat`** (`Model/Cli/Concat.lean`)
* `writeRaw_eq`              the writer of `concat` produces `encodeArchive 0 items false`;
* `concat_single_archives`   concatenating unsplit archives copies their items byte for byte, in order;
* `concat_of_split`          `concat` of the parts of a split visits exactly all parts and writes the ONE archive
                             holding the concatenated bodies (`C04M.concatArchive`), whose items are the original ones up
                             to the cutting of data chunks and which (for `Unmixed` items) reads like the original
                             archive;
* `concat_missing_part`      with the last parts missing the command fails with `NotFound` (C06 for `concat`) —
                             unlike `readMultipartWith`, which does not notice (`C04M.missing_last_part`).

Hypotheses that are not in the informal property and are needed: the number of parts `≤ 2^32`
(`C04M.too_many_parts_unreadable`), and `Unmixed` items (`C03R.parseEntry_recut` fails without it: `EntryPart::split`
also cuts an SDAT chunk kept as an uninterpreted chunk of a normal entry, which then comes back as two chunks —
`split_read_needs_unmixed` below).
-/
namespace Pna.C04R
open Pna Pna.C04M

/-- the sequence reads as one archive holding `bodies.flatten` (`split_then_read_partial`), whose items are the original
    ones up to the cutting of data chunks (`split_groups`), which the parsers respect (`parseItems_rel`) -/
theorem split_read_all2 (entries : List (List Chunk)) (maxFile : Nat) (bodies : List (List Chunk))
    (hw : ∀ e ∈ entries, ItemWF e) (hu : ∀ e ∈ entries, Unmixed e) (hfit : ChunksFit entries.flatten)
    (h : writeSplit entries maxFile = .ok bodies) (hlen : bodies.length ≤ 2 ^ 32) :
    All2 SameE (readMultipartWith chunksStream true 0 [] (encodeParts bodies)).1 (parseItems entries).1 ∧
    OutcomeRel (fun _ _ => True) (readMultipartWith chunksStream true 0 [] (encodeParts bodies)).2
      (parseItems entries).2 := by
  obtain ⟨_, _, _, hm, _⟩ := split_then_read_partial entries maxFile bodies h hw hfit hlen
  obtain ⟨g1, _⟩ := split_groups entries maxFile bodies h hw
  obtain ⟨p1, p2⟩ := parseItems_rel g1 (All2_unmixed g1 hu) hu
  rw [hm]
  show All2 _ (readConcat bodies.flatten).1 _ ∧ OutcomeRel _ (readConcat bodies.flatten).2 _
  rw [readConcat_eq]
  exact ⟨p1, p2⟩

/-- `split_read_same_entries` in list form -/
theorem split_read_same_entries_all2 (entries : List (List Chunk)) (maxFile : Nat) (bodies : List (List Chunk))
    (hw : ∀ e ∈ entries, ItemWF e) (hu : ∀ e ∈ entries, Unmixed e) (hfit : ChunksFit entries.flatten)
    (h : writeSplit entries maxFile = .ok bodies) (hlen : bodies.length ≤ 2 ^ 32) (n : Nat) (hn : n < 2 ^ 32) :
    All2 SameE (readMultipartWith chunksStream true 0 [] (encodeParts bodies)).1
      (readArchiveStream (encodeArchive n entries false)).entries ∧
    OutcomeRel (fun _ _ => True) (readMultipartWith chunksStream true 0 [] (encodeParts bodies)).2
      (readArchiveStream (encodeArchive n entries false)).status := by
  obtain ⟨p1, p2⟩ := split_read_all2 entries maxFile bodies hw hu hfit h hlen
  have hr : readArchiveStream (encodeArchive n entries false) = _ :=
    readArchiveWith_encodeArchive n hn entries hw hfit false
  rw [hr]
  exact ⟨p1, p2⟩

-- `irreducible`: when the index proof in `r.entries[k]'h₂` is elaborated, the validity argument of `getElem` is still
-- a metavariable, and the unifier would evaluate the reader on the concrete signature bytes of `encodeArchive`
attribute [local irreducible] readArchiveStream in
/-- Split an archive into part files, read the parts in sequence: the same entries as reading the unsplit
    archive — same number, pairwise the same header, key-derivation string, metadata, xattrs, extra chunks and
    concatenated data (`SameE`: only the places where the data is cut may differ) — and the same kind of end (ok,
    the same error, or a panic in both).  `n` is the number in the AHED of the unsplit archive (`pna` writes 0;
    the single-archive reader does not look at it). -/
theorem split_read_same_entries (entries : List (List Chunk)) (maxFile : Nat) (bodies : List (List Chunk))
    (hw : ∀ e ∈ entries, ItemWF e) (hu : ∀ e ∈ entries, Unmixed e) (hfit : ChunksFit entries.flatten)
    (h : writeSplit entries maxFile = .ok bodies) (hlen : bodies.length ≤ 2 ^ 32) (n : Nat) (hn : n < 2 ^ 32) :
    let m := readMultipartWith chunksStream true 0 [] (encodeParts bodies)
    let r := readArchiveStream (encodeArchive n entries false)
    m.1.length = r.entries.length ∧
    (∀ (k : Nat) (h₁ : k < m.1.length) (h₂ : k < r.entries.length), SameE (m.1[k]'h₁) (r.entries[k]'h₂)) ∧
    OutcomeRel (fun _ _ => True) m.2 r.status := by
  intro m r
  obtain ⟨p1, p2⟩ := split_read_same_entries_all2 entries maxFile bodies hw hu hfit h hlen n hn
  exact ⟨p1.length_eq, fun k h₁ h₂ => p1.getElem k h₁ h₂, p2⟩

/-- `split_read_entries` in list form -/
theorem split_read_entries_all2 (es : List ReadEntry) (hw : ∀ e ∈ es, e.WF) (hx : ∀ e ∈ es, NoMarkers e.extra)
    (hu : ∀ e ∈ es, Unmixed (serEntry e)) (hfit : ChunksFit (es.flatMap serEntry))
    (maxFile : Nat) (bodies : List (List Chunk))
    (h : writeSplit (es.map serEntry) maxFile = .ok bodies) (hlen : bodies.length ≤ 2 ^ 32) :
    All2 SameE (readMultipartWith chunksStream true 0 [] (encodeParts bodies)).1 es ∧
    (readMultipartWith chunksStream true 0 [] (encodeParts bodies)).2 = .ok () := by
  obtain ⟨p1, p2⟩ := split_read_all2 (es.map serEntry) maxFile bodies
    (List.forall_mem_map.mpr fun e he => serEntry_ItemWF e (hx e he)) (List.forall_mem_map.mpr hu)
    (by rw [← List.flatMap_def]; exact hfit) h hlen
  rw [parseItems_serEntry es hw] at p1 p2
  constructor
  · exact All2.trans (R := SameE) (fun _ _ _ p q => SameE.trans p q) p1
      (All2.symm (R := SameE) (fun _ _ p => SameE.symm p) (All2_recut es))
  · revert p2
    cases (readMultipartWith chunksStream true 0 [] (encodeParts bodies)).2 <;>
      simp only [OutcomeRel, imp_self, false_implies]

/-- The entries were written from `ReadEntry` values (`serEntry`): reading the parts in sequence ends ok
    and returns exactly these entries, up to the cutting of their data. -/
theorem split_read_entries (es : List ReadEntry) (hw : ∀ e ∈ es, e.WF) (hx : ∀ e ∈ es, NoMarkers e.extra)
    (hu : ∀ e ∈ es, Unmixed (serEntry e)) (hfit : ChunksFit (es.flatMap serEntry))
    (maxFile : Nat) (bodies : List (List Chunk))
    (h : writeSplit (es.map serEntry) maxFile = .ok bodies) (hlen : bodies.length ≤ 2 ^ 32) :
    let m := readMultipartWith chunksStream true 0 [] (encodeParts bodies)
    m.2 = .ok () ∧ m.1.length = es.length ∧
    ∀ (k : Nat) (h₁ : k < m.1.length) (h₂ : k < es.length), SameE (m.1[k]'h₁) (es[k]'h₂) := by
  intro m
  obtain ⟨p1, p2⟩ := split_read_entries_all2 es hw hx hu hfit maxFile bodies h hlen
  exact ⟨p2, p1.length_eq, fun k h₁ h₂ => p1.getElem k h₁ h₂⟩

/-- … with identical contents: every normal entry comes back as a normal entry with the same header,
    key-derivation string, extra chunks, metadata and xattrs, the same `compressed_size`, and for every cipher,
    codec and key decoding its data gives exactly what decoding the original entry's data gives. -/
theorem split_read_contents (es : List ReadEntry) (hw : ∀ e ∈ es, e.WF) (hx : ∀ e ∈ es, NoMarkers e.extra)
    (hu : ∀ e ∈ es, Unmixed (serEntry e)) (hfit : ChunksFit (es.flatMap serEntry))
    (maxFile : Nat) (bodies : List (List Chunk))
    (h : writeSplit (es.map serEntry) maxFile = .ok bodies) (hlen : bodies.length ≤ 2 ^ 32)
    (P : BlockPerm) (C : Compressor) (sel : CipherSel) (key : Bytes) :
    let m := readMultipartWith chunksStream true 0 [] (encodeParts bodies)
    ∀ (k : Nat) (h₁ : k < m.1.length) (h₂ : k < es.length) (e : NormalEntry), es[k]'h₂ = .normal e →
      ∃ e₁, m.1[k]'h₁ = .normal e₁ ∧ SameN e₁ e ∧
        readData P C sel key e₁.data = readData P C sel key e.data ∧ e₁.compressedSize = e.compressedSize := by
  intro m k h₁ h₂ e he
  have hs : SameE (m.1[k]'h₁) (es[k]'h₂) := (split_read_entries es hw hx hu hfit maxFile bodies h hlen).2.2 k h₁ h₂
  rw [he] at hs
  cases hm : m.1[k]'h₁ with
  | normal e₁ =>
    rw [hm] at hs
    exact ⟨e₁, rfl, hs, C03R.sameN_content P C sel key e₁ e hs⟩
  | solid s =>
    rw [hm] at hs
    exact absurd hs (by simp [SameE])

/-- `write_header`, raw `add_entry` …, `finalize`: a single-part archive number 0 holding the items -/
theorem writeRaw_eq (items : List (List Chunk)) : Cli.writeRaw items = encodeArchive 0 items false := by
  rw [writeRaw_archiveBytes, encodeArchive_eq_archiveBytes]

/-- Every input is ONE well-formed unsplit archive (any header number below 2^32, complete items, chunks
    that fit): `pna concat` succeeds and its output is the single archive number 0 holding all the items of all
    the inputs, in order, unchanged — the entries are copied byte for byte, nothing is decoded (C13 at the level
    of the command). -/
theorem concat_single_archives (as : List (Nat × List (List Chunk)))
    (h : ∀ a ∈ as, a.1 < 2 ^ 32 ∧ (∀ it ∈ a.2, ItemWF it) ∧ ChunksFit a.2.flatten) :
    Cli.concat (as.map fun a => [encodeArchive a.1 a.2 false]) = .ok (encodeArchive 0 (as.flatMap (·.2)) false) := by
  have hi : Cli.concatItems (as.map fun a => [encodeArchive a.1 a.2 false]) = .ok (as.flatMap (·.2)) := by
    induction as with
    | nil => rfl
    | cons a as ih =>
      obtain ⟨h1, h2, h3⟩ := h a (by simp)
      rw [List.map_cons, concatItems_cons_ok _ _ a.2 _ () (rawAcross_single a.1 h1 a.2 h2 h3 [])
        (ih (fun x hx => h x (by simp [hx])))]
      simp
  unfold Cli.concat
  rw [hi]
  simp only [writeRaw_eq]

/-- `rawAcross_complete` for a whole sequence, in terms of `encodeParts` -/
theorem rawAcross_parts (bodies : List (List Chunk)) (hne : bodies ≠ []) (hlen : bodies.length ≤ 2 ^ 32)
    (hfit : ChunksFit bodies.flatten) (hno : BodiesClean bodies) (ps : List Bytes) :
    Cli.rawAcross true 0 [] (encodeParts bodies ++ ps) = ((groupItems [] false bodies.flatten).1, .ok ()) := by
  rw [encodeParts_eq]
  exact rawAcross_complete bodies.length ps bodies 0 hne (by omega) (hno.partsOk hlen hfit) true 0 [] (Or.inl rfl)

/-- `pna concat` of one complete part sequence, for any clean bodies -/
theorem concat_parts (bodies : List (List Chunk)) (hne : bodies ≠ []) (hlen : bodies.length ≤ 2 ^ 32)
    (hfit : ChunksFit bodies.flatten) (hno : BodiesClean bodies) :
    Cli.concat [encodeParts bodies] = .ok (encodeArchive 0 (groupItems [] false bodies.flatten).1 false) := by
  unfold Cli.concat
  rw [concatItems_cons_ok _ [] _ [] () (List.append_nil _ ▸ rawAcross_parts bodies hne hlen hfit hno []) rfl, List.append_nil]
  simp only [writeRaw_eq]

/-- when no item is left open, the archive `concat` writes is the one archive holding the concatenated bodies -/
theorem encodeArchive_grouped (bodies : List (List Chunk)) (hno : BodiesClean bodies)
    (hc : (groupItems [] false bodies.flatten).2.1 = []) :
    encodeArchive 0 (groupItems [] false bodies.flatten).1 false = concatArchive bodies := by
  have hnp := NoPartMarkers.flatten hno.parts
  have h := groupItems_partition_proj bodies.flatten hnp.noAEND [] false
  rw [hc, List.append_nil, List.nil_append, List.filter_eq_self.mpr (by intro c hc; simpa using (hnp c hc).1)] at h
  rw [encodeArchive_eq_archiveBytes, h]
  rfl

/-- `pna concat` on the part files of a split (given as one input: the first part, the others found by
    following ANXT).  All parts are visited, the command succeeds, and the output
    * is the single archive holding the items grouped out of the concatenated bodies — byte for byte the ONE
      archive `concatArchive bodies` that the sequence reader behaves like (`C04M.multipart_eq_single_archive`);
    * its items are the original items up to the cutting of their data chunks, one for one and as a whole
      (`streamView`): `concat` does not merge the data chunks that `split` cut;
    * (for `Unmixed` items) read back, it gives the entries of the original archive: same number, pairwise `SameE`,
      same kind of end. -/
theorem concat_of_split (entries : List (List Chunk)) (maxFile : Nat) (bodies : List (List Chunk))
    (hw : ∀ e ∈ entries, ItemWF e) (hfit : ChunksFit entries.flatten)
    (h : writeSplit entries maxFile = .ok bodies) (hlen : bodies.length ≤ 2 ^ 32) :
    Cli.concat [encodeParts bodies] = .ok (encodeArchive 0 (groupItems [] false bodies.flatten).1 false) ∧
    encodeArchive 0 (groupItems [] false bodies.flatten).1 false = concatArchive bodies ∧
    All2 SvEq (groupItems [] false bodies.flatten).1 entries ∧
    streamView (groupItems [] false bodies.flatten).1.flatten = streamView entries.flatten ∧
    ((∀ e ∈ entries, Unmixed e) → ∀ n, n < 2 ^ 32 →
      All2 SameE (readArchiveStream (concatArchive bodies)).entries
        (readArchiveStream (encodeArchive n entries false)).entries ∧
      OutcomeRel (fun _ _ => True) (readArchiveStream (concatArchive bodies)).status
        (readArchiveStream (encodeArchive n entries false)).status) := by
  obtain ⟨hne, hbf, hclean, _, _⟩ := split_then_read_partial entries maxFile bodies h hw hfit hlen
  obtain ⟨g1, g2⟩ := split_groups entries maxFile bodies h hw
  refine ⟨concat_parts bodies hne hlen hbf hclean, encodeArchive_grouped bodies hclean g2, g1,
    All2_flatten_svEq g1, fun hu n hn => ?_⟩
  have hm := multipart_eq_single_archive bodies hlen hbf hclean
  obtain ⟨p1, p2⟩ := split_read_same_entries_all2 entries maxFile bodies hw hu hfit h hlen n hn
  generalize readArchiveStream (concatArchive bodies) = r at hm ⊢
  rw [hm] at p1 p2
  exact ⟨p1, p2⟩

/-- `concat` with the last parts of an input missing, for any clean bodies (`p = 0`: no part file at all) -/
theorem concat_missing_part (bodies : List (List Chunk)) (hlen : bodies.length ≤ 2 ^ 32)
    (hfit : ChunksFit bodies.flatten) (hno : BodiesClean bodies) (p : Nat) (hp : p < bodies.length) :
    Cli.concat [(encodeParts bodies).take p] = .error .notFound := by
  have hr : Cli.rawAcross true 0 [] ((encodeParts bodies).take p)
      = ((groupItems [] false (bodies.take p).flatten).1, .error .notFound) := by
    rw [encodeParts_eq, partsFrom_take]
    exact rawAcross_missing bodies.length (bodies.take p) 0 (by rw [List.length_take]; omega)
      ((hno.partsOk hlen hfit).take p) true 0 [] (Or.inl rfl)
  unfold Cli.concat
  rw [concatItems_cons_error _ _ _ _ hr]

/-- Only the first `p` part files of a split are there (`0 < p < bodies.length`): the ANXT flag of the
    last part present demands a part that is not there, and `pna concat` fails with `NotFound` — it never writes
    an archive from an incomplete sequence (property C06 for `pna concat`).  Contrast
    `C04M.missing_last_part`: the sequence reader alone returns ok on the same files. -/
theorem concat_missing_part_of_split (entries : List (List Chunk)) (maxFile : Nat) (bodies : List (List Chunk))
    (hw : ∀ e ∈ entries, ItemWF e) (hfit : ChunksFit entries.flatten)
    (h : writeSplit entries maxFile = .ok bodies) (hlen : bodies.length ≤ 2 ^ 32)
    (p : Nat) (_hp0 : 0 < p) (hp : p < bodies.length) :
    Cli.concat [(encodeParts bodies).take p] = .error .notFound ∧
    (readMultipartWith chunksStream true 0 [] ((encodeParts bodies).take p)).1
      <+: (readMultipartWith chunksStream true 0 [] (encodeParts bodies)).1 := by
  obtain ⟨_, hbf, hclean, _, _⟩ := split_then_read_partial entries maxFile bodies h hw hfit hlen
  exact ⟨concat_missing_part bodies hlen hbf hclean p hp,
    (missing_last_part bodies hlen hbf hclean p _hp0 hp).2.1⟩

/-- a solid block: SHED, 30 bytes of data in one SDAT chunk, SEND -/
def exSolid : List Chunk :=
  [⟨ChunkType.SHED, [0, 0, 0, 0, 0]⟩, ⟨ChunkType.SDAT, List.replicate 30 9⟩, ⟨ChunkType.SEND, []⟩]

/-- the archive of the examples: a file entry (`C04M.exItem`, 40 data bytes) and a solid block -/
def exEntries : List (List Chunk) := [exItem, exSolid]

/-- split at 100 bytes per file: four part bodies, both data chunks cut (17 + 23, 19 + 11) -/
def exParts : List (List Chunk) :=
  [[⟨ChunkType.FHED, [0, 0, 0, 0, 0, 0, 97]⟩, ⟨ChunkType.FDAT, List.replicate 17 7⟩],
   [⟨ChunkType.FDAT, List.replicate 23 7⟩, ⟨ChunkType.FEND, []⟩],
   [⟨ChunkType.SHED, [0, 0, 0, 0, 0]⟩, ⟨ChunkType.SDAT, List.replicate 19 9⟩],
   [⟨ChunkType.SDAT, List.replicate 11 9⟩, ⟨ChunkType.SEND, []⟩]]

theorem exEntries_wf : ∀ e ∈ exEntries, ItemWF e := by decide

theorem exEntries_unmixed : ∀ e ∈ exEntries, Unmixed e := by decide
theorem exEntries_fit : ChunksFit exEntries.flatten := by decide
theorem ex_split4 : writeSplit exEntries 100 = .ok exParts := by decide +kernel
theorem exParts_len : exParts.length ≤ 2 ^ 32 := by decide
theorem exParts_fit : ChunksFit exParts.flatten := by decide
theorem exParts_clean : BodiesClean exParts := by unfold BodiesClean; decide

/-- the four part files read in sequence: by `multipart_eq_concat`, then evaluation at chunk level (the example
    after this one evaluates the same reading, and the unsplit archive, from the bytes) -/
theorem exParts_read : readMultipartWith chunksStream true 0 [] (encodeParts exParts)
    = ([.normal { header := ⟨0, 0, 0, 0, 0, 0, [97]⟩, phsf := none, extra := [],
                  data := [List.replicate 17 7, List.replicate 23 7], md := {}, xattrs := [] },
        .solid { header := ⟨0, 0, 0, 0, 0⟩, phsf := none, data := [List.replicate 19 9, List.replicate 11 9],
                 extra := [] }], .ok ()) := by
  rw [multipart_eq_concat exParts exParts_len exParts_fit exParts_clean]
  decide +kernel

-- `split_read_same_entries` instantiated, and the two readers evaluated: two entries each, status ok, the entries are
-- NOT equal (their data is cut differently) but the same up to the cutting
example := split_read_same_entries exEntries 100 exParts exEntries_wf exEntries_unmixed exEntries_fit ex_split4
  exParts_len 0 (by decide)
example : (readMultipartWith chunksStream true 0 [] (encodeParts exParts)).2 = .ok () ∧
    (readMultipartWith chunksStream true 0 [] (encodeParts exParts)).1
      = [.normal { header := ⟨0, 0, 0, 0, 0, 0, [97]⟩, phsf := none, extra := [],
                   data := [List.replicate 17 7, List.replicate 23 7], md := {}, xattrs := [] },
         .solid { header := ⟨0, 0, 0, 0, 0⟩, phsf := none, data := [List.replicate 19 9, List.replicate 11 9],
                  extra := [] }] ∧
    (readArchiveStream (encodeArchive 0 exEntries false)).entries
      = [.normal { header := ⟨0, 0, 0, 0, 0, 0, [97]⟩, phsf := none, extra := [],
                   data := [List.replicate 40 7], md := {}, xattrs := [] },
         .solid { header := ⟨0, 0, 0, 0, 0⟩, phsf := none, data := [List.replicate 30 9], extra := [] }] ∧
    (encodeParts exParts).map List.length = [100, 99, 100, 75] := by
  decide +kernel

-- `split_read_entries`, `split_read_contents`: the same archive, written from `ReadEntry` values
def exN : NormalEntry :=
  { header := ⟨0, 0, 0, 0, 0, 0, [97]⟩, phsf := none, extra := [], data := [List.replicate 40 7], md := {},
    xattrs := [] }
def exS : SolidEntry := { header := ⟨0, 0, 0, 0, 0⟩, phsf := none, data := [List.replicate 30 9], extra := [] }
def exEs : List ReadEntry := [.normal exN, .solid exS]

theorem exEs_ser : exEs.map serEntry = exEntries := by decide +kernel

theorem exN_wf : exN.WF :=
  ⟨rfl, rfl, by decide, by decide, by decide, by decide, by decide +kernel, by decide +kernel,
    fun _ h => absurd h List.not_mem_nil, fun _ h => (nomatch h), fun _ h => (nomatch h), fun _ h => (nomatch h),
    fun _ h => (nomatch h), fun _ h => (nomatch h), fun _ h => (nomatch h), fun _ h => absurd h List.not_mem_nil⟩

theorem exS_wf : exS.WF :=
  ⟨by decide, by decide, by decide, by decide, by decide, fun _ h => absurd h List.not_mem_nil,
    fun _ h => nomatch h⟩

theorem exEs_wf : ∀ e ∈ exEs, e.WF := by
  intro e he
  simp only [exEs, List.mem_cons, List.not_mem_nil, or_false] at he
  rcases he with rfl | rfl
  · exact exN_wf
  · exact exS_wf

theorem exEs_nm : ∀ e ∈ exEs, NoMarkers e.extra := by decide

theorem exEs_unmixed : ∀ e ∈ exEs, Unmixed (serEntry e) := by
  intro e he
  simp only [exEs, List.mem_cons, List.not_mem_nil, or_false] at he
  rcases he with rfl | rfl
  · exact serEntry_unmixed _ (fun _ h => absurd h List.not_mem_nil)
  · exact serEntry_unmixed _ (fun _ h => absurd h List.not_mem_nil)

theorem exEs_fit : ChunksFit (exEs.flatMap serEntry) := by
  rw [List.flatMap_def, exEs_ser]; exact exEntries_fit

theorem exEs_split : writeSplit (exEs.map serEntry) 100 = .ok exParts := by rw [exEs_ser]; exact ex_split4

example := split_read_entries exEs exEs_wf exEs_nm exEs_unmixed exEs_fit 100 exParts exEs_split exParts_len
example := fun P C sel key =>
  split_read_contents exEs exEs_wf exEs_nm exEs_unmixed exEs_fit 100 exParts exEs_split exParts_len P C sel key
-- the contents, decoded with "store / no cipher": the 40 bytes, from the two pieces 17 + 23
example : (readMultipartWith chunksStream true 0 [] (encodeParts exParts)).1.map
      (fun e => match e with
        | .normal e => readData ⟨fun _ b => b, fun _ b => b⟩ storeCompressor .none [] e.data
        | .solid s => readData ⟨fun _ b => b, fun _ b => b⟩ storeCompressor .none [] s.data)
    = [.ok (List.replicate 40 7), .ok (List.replicate 30 9)] := by rw [exParts_read]; decide +kernel

/-- `Unmixed` is needed in `split_read_same_entries`: a normal entry that keeps an SDAT chunk as an uninterpreted
    chunk (allowed by `NormalEntry.WF`; `interpretedN SDAT = false`).  `EntryPart::split` cuts it like a data chunk,
    the reader returns the two pieces as two `extra` chunks: all other hypotheses hold, both readers succeed, and the
    entry read from the parts is NOT the entry read from the unsplit archive (not even up to `SameE`). -/
theorem split_read_needs_unmixed :
    ∃ (entries : List (List Chunk)) (maxFile : Nat) (bodies : List (List Chunk)),
      (∀ e ∈ entries, ItemWF e) ∧ ChunksFit entries.flatten ∧ writeSplit entries maxFile = .ok bodies ∧
      bodies.length ≤ 2 ^ 32 ∧
      ∃ a b, readMultipartWith chunksStream true 0 [] (encodeParts bodies) = ([.normal a], .ok ()) ∧
        (readArchiveStream (encodeArchive 0 entries false)).entries = [.normal b] ∧
        a.extra = [⟨ChunkType.SDAT, List.replicate 17 5⟩, ⟨ChunkType.SDAT, List.replicate 23 5⟩] ∧
        b.extra = [⟨ChunkType.SDAT, List.replicate 40 5⟩] ∧ ¬ SameE (.normal a) (.normal b) := by
  refine ⟨[[⟨ChunkType.FHED, [0, 0, 0, 0, 0, 0, 97]⟩, ⟨ChunkType.SDAT, List.replicate 40 5⟩, ⟨ChunkType.FEND, []⟩]],
    100,
    [[⟨ChunkType.FHED, [0, 0, 0, 0, 0, 0, 97]⟩, ⟨ChunkType.SDAT, List.replicate 17 5⟩],
     [⟨ChunkType.SDAT, List.replicate 23 5⟩, ⟨ChunkType.FEND, []⟩]], ?_, ?_, by decide +kernel, by decide,
    { header := ⟨0, 0, 0, 0, 0, 0, [97]⟩, phsf := none, data := [], md := {}, xattrs := [],
      extra := [⟨ChunkType.SDAT, List.replicate 17 5⟩, ⟨ChunkType.SDAT, List.replicate 23 5⟩] },
    { header := ⟨0, 0, 0, 0, 0, 0, [97]⟩, phsf := none, data := [], md := {}, xattrs := [],
      extra := [⟨ChunkType.SDAT, List.replicate 40 5⟩] }, by decide +kernel, by decide +kernel, rfl, rfl,
    by decide +kernel⟩
  · decide
  · decide

example : Cli.writeRaw exEntries = encodeArchive 0 exEntries false ∧ (Cli.writeRaw exEntries).length = 194 :=
  ⟨writeRaw_eq _, by decide +kernel⟩

-- `concat_single_archives`: two inputs, the second one with part number 7 in its header and two items: the theorem,
-- and by evaluation
def exInputs : List (Nat × List (List Chunk)) := [(0, [exItem]), (7, [exSolid, exItem])]

theorem exInputs_ok : ∀ a ∈ exInputs, a.1 < 2 ^ 32 ∧ (∀ it ∈ a.2, ItemWF it) ∧ ChunksFit a.2.flatten := by decide

example := concat_single_archives exInputs exInputs_ok
example : Cli.concat [[encodeArchive 0 [exItem] false], [encodeArchive 7 [exSolid, exItem] false]]
    = .ok (encodeArchive 0 [exItem, exSolid, exItem] false) := by decide +kernel

-- `concat_of_split`: the four part files of the example given to `concat`: the theorem, and by evaluation — the output
-- is the one archive holding the four bodies; its two items still have their data in two chunks each
example := concat_of_split exEntries 100 exParts exEntries_wf exEntries_fit ex_split4 exParts_len
example : Cli.concat [encodeParts exParts] = .ok (concatArchive exParts) ∧
    (groupItems [] false exParts.flatten).1 = [exParts[0] ++ exParts[1], exParts[2] ++ exParts[3]] ∧
    (groupItems [] false exParts.flatten).1 ≠ exEntries ∧
    (concatArchive exParts).length = 218 ∧ (encodeArchive 0 exEntries false).length = 194 := by
  refine ⟨?_, by decide, by decide, ?_, ?_⟩
  · rw [concat_parts exParts (by decide) exParts_len exParts_fit exParts_clean,
      encodeArchive_grouped exParts exParts_clean (by decide)]
  · exact (archiveBytes_length 0 exParts.flatten).trans (by decide)
  · rw [encodeArchive_eq_archiveBytes, archiveBytes_length]
    decide

-- `concat_missing_part_of_split`: the third and fourth part missing: `concat` fails, while the sequence reader returns
-- the first entry and ok
example := concat_missing_part_of_split exEntries 100 exParts exEntries_wf exEntries_fit ex_split4 exParts_len 2
  (by decide) (by decide)
example : Cli.concat [(encodeParts exParts).take 2] = .error .notFound ∧
    Cli.concat [(encodeParts exParts).take 3] = .error .notFound ∧
    (readMultipartWith chunksStream true 0 [] ((encodeParts exParts).take 2)).2 = .ok () ∧
    (readMultipartWith chunksStream true 0 [] ((encodeParts exParts).take 2)).1.length = 1 := by
  rw [(missing_last_part exParts exParts_len exParts_fit exParts_clean 2 (by decide) (by decide)).1]
  exact ⟨concat_missing_part exParts exParts_len exParts_fit exParts_clean 2 (by decide),
    concat_missing_part exParts exParts_len exParts_fit exParts_clean 3 (by decide), by decide +kernel⟩
-- a second input after the complete sequence is still processed; parts after the last one are never opened
example : Cli.concat [encodeParts exParts ++ [[1, 2, 3]], [encodeArchive 0 [exItem] false]]
    = .ok (encodeArchive 0 ((groupItems [] false exParts.flatten).1 ++ [exItem]) false) := by
  have h1 := rawAcross_parts exParts (by decide) exParts_len exParts_fit exParts_clean [[1, 2, 3]]
  have h2 := rawAcross_single 0 (by decide) [exItem] (exInputs_ok _ (.head _)).2.1 (exInputs_ok _ (.head _)).2.2 []
  rw [Cli.concat, concatItems_cons_ok _ _ _ _ () h1 (concatItems_cons_ok _ [] _ [] () h2 rfl), List.append_nil]
  exact congrArg Outcome.ok (writeRaw_eq _)

end Pna.C04R

#print axioms Pna.C04R.split_read_same_entries
#print axioms Pna.C04R.split_read_same_entries_all2
#print axioms Pna.C04R.split_read_entries
#print axioms Pna.C04R.split_read_contents
#print axioms Pna.C04R.split_read_needs_unmixed
#print axioms Pna.C04R.writeRaw_eq
#print axioms Pna.C04R.concat_single_archives
#print axioms Pna.C04R.concat_of_split
#print axioms Pna.C04R.concat_missing_part
#print axioms Pna.C04R.concat_missing_part_of_split
