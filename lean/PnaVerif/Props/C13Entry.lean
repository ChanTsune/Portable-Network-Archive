import PnaVerif.Lemmas.Reser
import PnaVerif.Lemmas.CliEdit
import PnaVerif.Props.C10
/-!
# C13 (entry level) — decode → write preserves meaning, keeps unknown chunks, and is byte-stable
For every chunk list the parser accepts — foreign layouts included: chunks in any order,
repeated singletons, unknown ancillary/private/critical types, many data chunks —
* `normal_keeps_unknown` — the unknown chunks of an entry are kept, all of them, in order;
* `normal_reser_meaning` — re-serialising and decoding again gives the same header, PHSF,
  metadata, xattrs, unknown chunks and concatenated data stream;
* `normal_reser_byte_stable` — from the second pass on the bytes are stable;
* `solid_reser_exact` — solid blocks re-serialise to a block that decodes to the same value
  (after the `fix:` that stopped SEND from being kept as an extra chunk);
* `edit_paths_keep_unknown_chmod` — `chmod`, under every strategy, carries the unknown chunks of every entry;
  `edit_paths_keep_block_chunks` — under keep-solid every transform keeps the header and the unknown chunks of
  every solid block.
-/
namespace Pna.C13E
open Pna

theorem normal_keeps_unknown (raw : List Chunk) (e : NormalEntry) (h : parseN raw = .ok e) :
    e.extra = (raw.takeWhile (fun c => c.ty ≠ ChunkType.FEND)).filter (fun c => interpretedN c.ty = false) := by
  obtain ⟨a, -, hl, -, -, -, rfl⟩ := parseN_ok h
  have := nLoop_extra hl
  simpa using this

theorem normal_reser_meaning (raw : List Chunk) (e : NormalEntry) (h : parseN raw = .ok e) :
    ∃ e', parseN (serN e) = .ok e' ∧ e'.header = e.header ∧ e'.phsf = e.phsf ∧ e'.extra = e.extra ∧
      e'.md = e.md ∧ e'.xattrs = e.xattrs ∧ e'.data.flatten = e.data.flatten :=
  ⟨e.recut, parseN_serN e (parseN_WF raw e h), recut_meaning e⟩

theorem normal_reser_byte_stable (raw : List Chunk) (e : NormalEntry) (h : parseN raw = .ok e) :
    ∃ e', parseN (serN e) = .ok e' ∧ serN e' = serN e := normal_reser_stable raw e h

theorem canonical_roundtrip (e : NormalEntry) (h : e.WF) : parseN (serN e) = .ok e.recut := parseN_serN e h

theorem solid_reser_exact (raw : List Chunk) (s : SolidEntry) (h : parseS raw = .ok s) :
    parseS (serS s) = .ok s := parseS_serS s (parseS_WF raw s h)

/-- CLI: `chmod`, under every strategy, leaves the unknown chunks of every entry as they are … -/
theorem edit_paths_keep_unknown_chmod (st : Cli.Strategy) (sel : Bytes → Bool) (m : Cli.Mode) (a : Cli.Archive) :
    (Cli.entriesOf (Cli.transform st (Cli.chmodF sel m) a)).map (·.extras) = (Cli.entriesOf a).map (·.extras) := by
  have hw : (Cli.writtenOf st a).map (·.extras) = (Cli.entriesOf a).map (·.extras) := by
    have := congrArg (List.map (·.extras)) (Cli.written_content st a)
    simpa [List.map_map, Function.comp_def, Cli.LEntry.content] using this
  rw [C10.chmod_spec, List.map_map, ← hw]
  congr 1; funext e
  simp only [Function.comp]
  split <;> rfl

/-- … and under `--keep-solid` every transform keeps the header and the unknown chunks of every solid block. -/
theorem edit_paths_keep_block_chunks (f : Cli.LEntry → Option Cli.LEntry) (a : Cli.Archive) :
    Cli.solidFrames (Cli.transform .keepSolid f a) = Cli.solidFrames a := C10.keep_solid_structure f a

end Pna.C13E
