import PnaVerif.Lemmas.Chunk
import PnaVerif.Model.Archive
/-!
# C03 — decoding is independent of the reader used
The streaming parser and the in-memory parser are the same function on every byte string:
chunks, both chunk iterators, and hence both entry readers (which are one model function
instantiated with either parser).  Independence of where data chunks are cut is in `Props/C03Recut.lean`.
-/
namespace Pna.C03
open Pna

theorem chunk_slice_eq_stream (bs : Bytes) : decodeSlice bs = decodeStream bs :=
  decodeSlice_eq_decodeStream bs

theorem chunks_eq (bs : Bytes) : chunksSlice bs = chunksStream bs := chunksSlice_eq_chunksStream bs

theorem chunksSlice_funext : chunksSlice = chunksStream := funext chunksSlice_eq_chunksStream

/-- Entries, raw items, success/failure kind, carry buffer and continuation flag agree. -/
theorem slice_eq_stream (bs : Bytes) : readArchiveSlice bs = readArchiveStream bs := by
  unfold readArchiveSlice readArchiveStream; rw [chunksSlice_funext]

theorem raw_slice_eq_stream (bs : Bytes) : rawEntriesWith chunksSlice bs = rawEntriesWith chunksStream bs := by
  rw [chunksSlice_funext]

theorem multipart_slice_eq_stream (parts : List Bytes) :
    readMultipartWith chunksSlice true 0 [] parts = readMultipartWith chunksStream true 0 [] parts := by
  rw [chunksSlice_funext]

example : (readArchiveStream (signature ++ (Chunk.mk ChunkType.AHED [0,0,0,0,0,0,0,0]).encode
    ++ (Chunk.mk ChunkType.AEND []).encode)).status.isOk = true := by decide +kernel

end Pna.C03
