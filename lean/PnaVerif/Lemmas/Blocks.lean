import PnaVerif.Lemmas.ListFacts
import PnaVerif.Model.Cipher
import PnaVerif.Lemmas.Flatten
/-! Arithmetic of 16-byte blocks shared by the CBC writer, the CBC reader and the wrong-key
    characterisation: `toBlocks`, `xorBytes`, PKCS#7.  Proofs about whole messages go by
    `chunks_induction 16`: a message is shorter than a block, or a block in front of a message. -/
namespace Pna

theorem toBlocks_nil : toBlocks [] = [] := rustChunks_nil 16

theorem toBlocks_append (b rest : Bytes) (h : b.length = 16) :
    toBlocks (b ++ rest) = b :: toBlocks rest := rustChunks_append 16 (by decide) b rest h

theorem toBlocks_small (r : Bytes) (h : r.length ≤ 16) (hne : r ≠ []) : toBlocks r = [r] :=
  rustChunks_small 16 r h hne

theorem toBlocks_ne_nil (bs : Bytes) (h : bs ≠ []) : toBlocks bs ≠ [] := by
  rw [toBlocks, rustChunks_step 16 (by decide) bs h]; exact List.cons_ne_nil _ _

theorem toBlocks_flatten_append (L : List Bytes) (x : Bytes) (h : ∀ b ∈ L, b.length = 16) :
    toBlocks (L.flatten ++ x) = L ++ toBlocks x := by
  induction L with
  | nil => rfl
  | cons b L ih =>
    rw [List.flatten_cons, List.append_assoc, toBlocks_append _ _ (h b List.mem_cons_self),
      ih (fun c hc => h c (List.mem_cons_of_mem _ hc)), List.cons_append]

theorem toBlocks_flatten (L : List Bytes) (h : ∀ b ∈ L, b.length = 16) : toBlocks L.flatten = L := by
  have := toBlocks_flatten_append L [] h
  rwa [List.append_nil, toBlocks_nil, List.append_nil] at this

theorem xorBytes_length (a b : Bytes) : (xorBytes a b).length = min a.length b.length :=
  List.length_zipWith

theorem xorBytes_cancel (b : Bytes) : ∀ c : Bytes, b.length ≤ c.length →
    xorBytes (xorBytes b c) c = b := by
  induction b with
  | nil => intro c _; rfl
  | cons x b ih =>
    intro c hc
    cases c with
    | nil => exact absurd hc (Nat.not_succ_le_zero _)
    | cons y c =>
      show (x ^^^ y ^^^ y) :: xorBytes (xorBytes b c) c = x :: b
      rw [ih c (Nat.le_of_succ_le_succ hc), UInt8.xor_xor_cancel_right']

theorem xorBytes_eq_iff (a b c : Bytes) (ha : a.length ≤ c.length) (hb : b.length ≤ c.length) :
    xorBytes a c = b ↔ a = xorBytes b c :=
  ⟨fun h => by rw [← h, xorBytes_cancel a c ha], fun h => by rw [h, xorBytes_cancel b c hb]⟩

theorem pkcs7PadBlock_length (buf : Bytes) (h : buf.length < 16) :
    (pkcs7PadBlock buf).length = 16 := by
  rw [pkcs7PadBlock, List.length_append, List.length_replicate]; omega

theorem pkcs7Pad_small (buf : Bytes) (h : buf.length < 16) : pkcs7Pad buf = pkcs7PadBlock buf := by
  rw [pkcs7Pad, pkcs7PadBlock, Nat.mod_eq_of_lt h]

/-- Padding only looks at the length modulo 16: a whole block in front passes through. -/
theorem pkcs7Pad_append (b rest : Bytes) (h : b.length = 16) :
    pkcs7Pad (b ++ rest) = b ++ pkcs7Pad rest := by
  rw [pkcs7Pad, pkcs7Pad, List.length_append, h, Nat.add_mod_left, List.append_assoc]

theorem padBlocks_small (buf : Bytes) (h : buf.length < 16) :
    toBlocks (pkcs7Pad buf) = [pkcs7PadBlock buf] := by
  have hl := pkcs7PadBlock_length buf h
  rw [pkcs7Pad_small buf h, toBlocks_small _ (by omega)]
  intro h0; rw [h0] at hl; cases hl

theorem padBlocks_append (b rest : Bytes) (h : b.length = 16) :
    toBlocks (pkcs7Pad (b ++ rest)) = b :: toBlocks (pkcs7Pad rest) := by
  rw [pkcs7Pad_append b rest h, toBlocks_append b _ h]

theorem padBlocks_all16 (msg : Bytes) :
    toBlocks (pkcs7Pad msg) ≠ [] ∧ ∀ b ∈ toBlocks (pkcs7Pad msg), b.length = 16 := by
  induction msg using chunks_induction 16 (by decide) with
  | small r hr =>
    rw [padBlocks_small r hr]
    exact ⟨List.cons_ne_nil _ _, fun b hb => by
      rw [List.mem_singleton.mp hb]; exact pkcs7PadBlock_length r hr⟩
  | full b rest hb ih =>
    rw [padBlocks_append b rest hb]
    exact ⟨List.cons_ne_nil _ _, List.forall_mem_cons.mpr ⟨hb, ih.2⟩⟩

theorem pkcs7Unpad_eq_some_iff (blk t : Bytes) :
    pkcs7Unpad blk = some t ↔
      ∃ n, 1 ≤ n ∧ n ≤ 16 ∧ blk = t ++ List.replicate n (UInt8.ofNat n) := by
  constructor
  · intro h
    unfold pkcs7Unpad at h
    split at h
    · cases h  -- no last byte: the block is empty
    · rename_i last hg
      simp only [] at h
      split at h
      · cases h  -- the count `last.toNat` is 0, above 16 or above the length
      · rename_i hc
        split at h
        · rename_i hall  -- the last `last.toNat` bytes all equal `last`
          injection h with ht
          refine ⟨last.toNat, by omega, by omega, ?_⟩
          have hdrop : blk.drop (blk.length - last.toNat) = List.replicate last.toNat last := by
            rw [List.eq_replicate_iff]
            exact ⟨by rw [List.length_drop]; omega,
              fun b hb => eq_of_beq (List.all_eq_true.mp hall b hb)⟩
          rw [UInt8.ofNat_toNat, ← hdrop, ← ht, List.take_append_drop]
        · cases h  -- one of them differs
  · rintro ⟨n, h1, h16, rfl⟩
    have htn : (UInt8.ofNat n).toNat = n := by rw [UInt8.toNat_ofNat']; omega
    have hlast : (t ++ List.replicate n (UInt8.ofNat n)).getLast? = some (UInt8.ofNat n) := by
      rw [List.getLast?_append, List.getLast?_replicate, if_neg (by omega)]; rfl
    unfold pkcs7Unpad
    rw [hlast]
    simp only [htn, List.length_append, List.length_replicate]
    rw [if_neg (by omega), Nat.add_sub_cancel, List.drop_left, List.take_left, if_pos]
    exact List.all_eq_true.mpr fun b hb => beq_iff_eq.mpr (List.eq_of_mem_replicate hb)

theorem pkcs7Unpad_padBlock (buf : Bytes) (h : buf.length < 16) :
    pkcs7Unpad (pkcs7PadBlock buf) = some buf :=
  (pkcs7Unpad_eq_some_iff _ _).mpr ⟨16 - buf.length, by omega, by omega, rfl⟩

theorem pkcs7Unpad_full_iff (blk t : Bytes) (hl : blk.length = 16) (ht : t.length < 16) :
    pkcs7Unpad blk = some t ↔ blk = pkcs7PadBlock t := by
  refine ⟨fun h => ?_, fun h => h ▸ pkcs7Unpad_padBlock t ht⟩
  obtain ⟨n, _, _, rfl⟩ := (pkcs7Unpad_eq_some_iff _ _).mp h
  rw [List.length_append, List.length_replicate] at hl
  rw [pkcs7PadBlock, show 16 - t.length = n by omega]

theorem pkcs7Unpad_length (blk t : Bytes) (h : pkcs7Unpad blk = some t) : t.length < blk.length := by
  obtain ⟨n, _, _, rfl⟩ := (pkcs7Unpad_eq_some_iff _ _).mp h
  rw [List.length_append, List.length_replicate]; omega

end Pna
