import PnaVerif.Model.Chunk
/-!
  `streamView`: the canonical form of a chunk list under the cutting of data chunks, consecutive FDAT (or SDAT) chunks
  merged into one.  "The same up to cutting" is equality of `streamView`s (`CutOf` in Lemmas/Split, `SvEq` in
  Lemmas/Recut).  `svStep` is one step of it (`streamView_cons`) and has two outcomes, `c` put in front or merged into
  the head (`svStep_cases`): the inductions over a chunk list, here and in Lemmas/Recut, go through these.
  `streamView` is idempotent and a congruence for `++` (`streamView_append`, `streamView_congr`); it keeps the type of
  the first chunk and the set of chunk types (`streamView_head_ty`, `streamView_mem_ty`).
-/
namespace Pna

/-- Chunk list up to the cutting of data chunks: consecutive stream chunks of the same type are
    merged into one (their payloads concatenated). Two chunk lists with the same `streamView`
    decode to the same thing, provided no item carries data chunks of the other kind (`Unmixed`,
    Lemmas/Recut.lean). -/
def streamView : List Chunk → List Chunk
  | [] => []
  | c :: cs =>
    match streamView cs with
    | d :: ds => if c.isStream ∧ c.ty = d.ty then ⟨c.ty, c.data ++ d.data⟩ :: ds else c :: d :: ds
    | [] => [c]

/-- One step of `streamView`: put `c` in front of an already merged list.
    Keep it behind `streamView`: its `match` is the inner one of `streamView`, and Lean shares one matcher per module
    among matches of the same shape, named after the declaration that made it (`streamView.match_1`; as at
    `outcome_unit_norm`, Lemmas/Grouping.lean). -/
def svStep (c : Chunk) : List Chunk → List Chunk
  | d :: ds => if c.isStream ∧ c.ty = d.ty then ⟨c.ty, c.data ++ d.data⟩ :: ds else c :: d :: ds
  | [] => [c]

@[simp] theorem streamView_nil : streamView [] = [] := rfl

theorem svStep_nil (c : Chunk) : svStep c [] = [c] := rfl

theorem svStep_cases (c : Chunk) (Z : List Chunk) :
    svStep c Z = c :: Z ∨
      ∃ d ds, Z = d :: ds ∧ c.isStream = true ∧ c.ty = d.ty ∧ svStep c Z = ⟨c.ty, c.data ++ d.data⟩ :: ds := by
  cases Z with
  | nil => exact .inl rfl
  | cons d ds =>
    by_cases hm : c.isStream ∧ c.ty = d.ty
    · exact .inr ⟨d, ds, rfl, hm.1, hm.2, by simp [svStep, hm]⟩
    · exact .inl (by simp only [svStep, hm, if_false])

theorem streamView_cons (c : Chunk) (cs : List Chunk) :
    streamView (c :: cs) = svStep c (streamView cs) := by
  rw [streamView]
  cases streamView cs <;> rfl

theorem svStep_merge (c d : Chunk) (Z : List Chunk) (hc : c.isStream = true) (hd : c.ty = d.ty) :
    svStep c (svStep d Z) = svStep ⟨c.ty, c.data ++ d.data⟩ Z := by
  obtain ⟨t, a⟩ := c
  obtain ⟨_, b⟩ := d
  subst hd
  have ht : t.isStream = true := hc
  cases Z with
  | nil => simp [svStep, Chunk.isStream, ht]
  | cons e es =>
    by_cases h : t = e.ty
    · simp [svStep, Chunk.isStream, ht, ← h]
    · simp [svStep, Chunk.isStream, ht, h]

theorem streamView_congr_right (xs : List Chunk) {ys ys' : List Chunk}
    (h : streamView ys = streamView ys') : streamView (xs ++ ys) = streamView (xs ++ ys') := by
  induction xs with
  | nil => simpa using h
  | cons c xs ih => simp only [List.cons_append, streamView_cons, ih]

theorem streamView_append_left (xs ys : List Chunk) :
    streamView (xs ++ ys) = streamView (streamView xs ++ ys) := by
  induction xs with
  | nil => simp
  | cons c xs ih =>
    simp only [List.cons_append, streamView_cons]
    rw [ih]
    rcases svStep_cases c (streamView xs) with e | ⟨d, ds, hx, hs, ht, e⟩ <;> rw [e]
    · simp only [List.cons_append, streamView_cons]
    · simp only [hx, List.cons_append, streamView_cons]
      exact svStep_merge c d _ hs ht

theorem streamView_idem (xs : List Chunk) : streamView (streamView xs) = streamView xs := by
  have := streamView_append_left xs []
  simpa using this.symm

theorem streamView_append (xs ys : List Chunk) :
    streamView (xs ++ ys) = streamView (streamView xs ++ streamView ys) := by
  rw [streamView_append_left xs ys]
  exact streamView_congr_right _ (streamView_idem ys).symm

theorem streamView_congr {x y u v : List Chunk} (h : streamView x = streamView y) (g : streamView u = streamView v) :
    streamView (x ++ u) = streamView (y ++ v) := by
  rw [streamView_append x, h, g, ← streamView_append]

theorem svStep_head_ty (c : Chunk) (Z : List Chunk) : (svStep c Z).head?.map (·.ty) = some c.ty := by
  rcases svStep_cases c Z with e | ⟨d, ds, _, _, _, e⟩ <;> rw [e] <;> rfl

theorem streamView_head_ty (cs : List Chunk) : (streamView cs).head?.map (·.ty) = cs.head?.map (·.ty) := by
  cases cs with
  | nil => rfl
  | cons c cs => rw [streamView_cons, svStep_head_ty]; rfl

theorem streamView_eq_nil {cs : List Chunk} (h : streamView cs = []) : cs = [] := by
  cases cs with
  | nil => rfl
  | cons c cs =>
    have := streamView_head_ty (c :: cs)
    rw [h] at this
    simp at this

theorem svStep_mem_ty (c : Chunk) (Z : List Chunk) (t : ChunkType) :
    (∃ x ∈ svStep c Z, x.ty = t) ↔ (c.ty = t ∨ ∃ x ∈ Z, x.ty = t) := by
  rcases svStep_cases c Z with e | ⟨d, ds, rfl, _, ht, e⟩ <;> rw [e]
  · simp only [List.mem_cons, exists_eq_or_imp]
  · simp only [List.mem_cons, exists_eq_or_imp, ← ht, ← or_assoc, or_self]

theorem streamView_mem_ty (cs : List Chunk) (t : ChunkType) :
    (∃ x ∈ streamView cs, x.ty = t) ↔ ∃ x ∈ cs, x.ty = t := by
  induction cs with
  | nil => simp
  | cons c cs ih =>
    rw [streamView_cons, svStep_mem_ty, ih]
    simp only [List.mem_cons, exists_eq_or_imp]

theorem mem_ty_of_svEq {a b : List Chunk} (h : streamView a = streamView b) (t : ChunkType) :
    (∃ x ∈ a, x.ty = t) ↔ ∃ x ∈ b, x.ty = t := by
  rw [← streamView_mem_ty a, ← streamView_mem_ty b, h]

end Pna
