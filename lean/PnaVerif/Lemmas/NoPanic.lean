import PnaVerif.Lemmas.Codec
import PnaVerif.Model.Archive
import PnaVerif.Lemmas.EntryLoop
/-! Totality of the archive read path: the entry parsers (`parseN`, `parseS`, `parseEntry`, `parseItems`), the chunk
    iterator (`chunkIter`, `chunksStream`) and the archive reader over it (`readArchiveWith chunksStream`) reach no
    `panic` outcome, on any input; stated as `isPanic = false`, like `decodeStream` (`Lemmas/Chunk.lean`) and the
    header decoders (`Lemmas/Codec.lean`) they call.
    `ok` and `error` are not panics, `>>=`, `if` and `map'` pass that on (`bind_no_panic` … in
    `Lemmas/Outcome.lean`), and in the model's own
    `match x with | .error e => .error e | .panic s => .panic s | .ok a => …` the panic branch is
    refuted by `ne_panic`.
    The other no-panic lemmas stand with their functions, in the form `≠ .panic s` unless said: the solid iterator
    in `Lemmas/Solid.lean`, `skipChunk`/`seekEndGo`/`seekEnd` in `Lemmas/Append.lean`, `cbcDecrypt` in
    `Lemmas/CbcRef.lean`, `cbcReadAll` in `Lemmas/CbcReader.lean`, `readData` in `Props/C16Key.lean`, `deriveKey`
    and `openEntryData` in `Props/C16.lean` (these two as `isPanic = false`); `isPanic_eq_false_iff`
    (`Lemmas/Outcome.lean`) converts the two forms. -/
namespace Pna

theorem nStep_no_panic (a : NAcc) (c : Chunk) : (nStep a c).isPanic = false := by
  unfold nStep
  repeat' apply ite_no_panic
  all_goals first
    | rfl
    | exact bind_no_panic _ _ (decFHED_no_panic _) fun _ => rfl
    | exact bind_no_panic _ _ (decTime_no_panic _) fun _ => rfl
    | exact bind_no_panic _ _ (decFPRM_no_panic _) fun _ => rfl
    | exact bind_no_panic _ _ (decXATR_no_panic _) fun _ => rfl

theorem parseN_go_no_panic (raw : List Chunk) : (parseN.go raw).isPanic = false := by
  unfold parseN.go
  split
  · rfl
  · exact (ne_panic (nLoop_eq _ _ ▸ loopOf_no_panic nStep_no_panic {} raw) ‹_›).elim
  · split
    · rfl
    · split <;> rfl

theorem parseN_no_panic (raw : List Chunk) : (parseN raw).isPanic = false := by
  unfold parseN
  split
  · exact guard_no_panic _ _ _ (parseN_go_no_panic raw)
  · exact parseN_go_no_panic raw

theorem sStep_no_panic (a : SAcc) (c : Chunk) : (sStep a c).isPanic = false := by
  unfold sStep
  repeat' apply ite_no_panic
  all_goals first
    | rfl
    | exact bind_no_panic _ _ (decSHED_no_panic _) fun _ => rfl

theorem parseS_go_no_panic (raw : List Chunk) : (parseS.go raw).isPanic = false := by
  unfold parseS.go
  split
  · rfl
  · exact (ne_panic (sLoop_eq _ _ ▸ loopOf_no_panic sStep_no_panic {} raw) ‹_›).elim
  · split <;> rfl

theorem parseS_no_panic (raw : List Chunk) : (parseS raw).isPanic = false := by
  unfold parseS
  split
  · exact guard_no_panic _ _ _ (parseS_go_no_panic raw)
  · exact parseS_go_no_panic raw

theorem parseEntry_no_panic (raw : List Chunk) : (parseEntry raw).isPanic = false := by
  unfold parseEntry
  split
  · rfl
  · exact ite_no_panic _ _ _ (map'_no_panic _ _ (parseS_no_panic raw))
      (ite_no_panic _ _ _ (map'_no_panic _ _ (parseN_no_panic raw)) rfl)

theorem parseItems_no_panic (its : List (List Chunk)) : (parseItems its).2.isPanic = false := by
  induction its with
  | nil => rfl
  | cons it its ih =>
    unfold parseItems
    split
    · rfl
    · exact (ne_panic (parseEntry_no_panic it) ‹_›).elim
    · exact ih

/-- `hf` keeps the `"fuel"` panic out of reach: each accepted chunk consumes at least 12 bytes
    (`decodeStream_rest_le`). -/
theorem chunkIter_no_panic (fuel : Nat) (bs : Bytes) (hf : bs.length < fuel) :
    (chunkIter decodeStream fuel bs).2.isPanic = false := by
  induction fuel generalizing bs with
  | zero => omega
  | succ fuel ih =>
    unfold chunkIter
    split
    · rfl
    · exact (ne_panic (decodeStream_no_panic bs) ‹_›).elim
    · split
      · rfl
      · exact ih _ (by have := decodeStream_rest_le bs _ _ ‹_›; omega)

theorem chunksStream_no_panic (bs : Bytes) : (chunksStream bs).2.isPanic = false := by
  unfold chunksStream readSigStream
  split
  · rfl
  · rename_i s hs
    exact (ne_panic (readSigStream_no_panic bs) hs).elim
  · exact chunkIter_no_panic _ _ (by omega)

/-- `chunkIter` ends with `ok` only after an AEND chunk, so its chunk list is then non-empty. -/
theorem chunkIter_ok_nonempty (fuel : Nat) (bs : Bytes)
    (h : (chunkIter decodeStream fuel bs).2 = .ok ()) : (chunkIter decodeStream fuel bs).1 ≠ [] := by
  cases fuel with
  | zero => cases h
  | succ fuel =>
    unfold chunkIter at h ⊢
    cases hd : decodeStream bs with
    | ok p => simp only; split <;> simp
    | _ => rw [hd] at h; cases h

theorem readArchiveWith_no_panic (carry : List Chunk) (bs : Bytes) :
    (readArchiveWith chunksStream carry bs).status.isPanic = false := by
  unfold readArchiveWith
  have hcs := chunksStream_no_panic bs
  rcases hch : chunksStream bs with ⟨cs, st⟩
  rw [hch] at hcs
  cases cs with
  | nil =>
    cases st with
    | ok u =>
      -- `ok` without any chunk does not occur: `chunkIter_ok_nonempty`
      unfold chunksStream at hch
      split at hch <;> try cases hch
      exact (chunkIter_ok_nonempty _ _ (congrArg Prod.snd hch) (congrArg Prod.fst hch)).elim
    | error e => rfl
    | panic s => cases hcs
  | cons c0 rest =>
    simp only
    split
    · rfl
    · split
      · rfl
      · exact (ne_panic (decAHED_no_panic c0.data) ‹_›).elim
      · simp only
        have hp := parseItems_no_panic (groupItems carry false rest).1
        rcases hpi : parseItems (groupItems carry false rest).1 with ⟨es, po⟩
        rw [hpi] at hp
        cases po with
        | ok u => exact hcs
        | error e => rfl
        | panic s => cases hp

end Pna
