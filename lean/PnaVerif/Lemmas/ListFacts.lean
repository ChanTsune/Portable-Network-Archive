/-! Facts about lists, `UInt8` and `Except` that core Lean does not state, and `All2 R` (two lists related element by
    element); nothing here mentions the model. -/
namespace Pna

theorem split_at_index {α} (cs : List α) (i : Nat) (hi : i < cs.length) :
    cs = cs.take i ++ cs[i] :: cs.drop (i + 1) := by
  rw [← List.drop_eq_getElem_cons hi, List.take_append_drop]

theorem flatten_split_at {α} (ls : List (List α)) (i : Nat) (hi : i < ls.length) :
    ls.flatten = (ls.take i).flatten ++ (ls[i] ++ (ls.drop (i + 1)).flatten) := by
  conv => lhs; rw [split_at_index ls i hi]
  rw [List.flatten_append, List.flatten_cons]

theorem flatten_take_drop {α} (ls : List (List α)) (i : Nat) :
    ls.flatten = (ls.take i).flatten ++ (ls.drop i).flatten := by
  rw [← List.flatten_append, List.take_append_drop]

theorem flatten_length_of_all {α} (n : Nat) (L : List (List α)) (h : ∀ b ∈ L, b.length = n) :
    L.flatten.length = n * L.length := by
  induction L with
  | nil => rfl
  | cons a L ih =>
    rw [List.flatten_cons, List.length_append, List.length_cons, Nat.mul_succ,
      ih (fun b hb => h b (List.mem_cons_of_mem _ hb)), h a List.mem_cons_self, Nat.add_comm]

theorem getElem_order_of_split {α} (A B : α → Prop) (l pre post : List α) (hl : l = pre ++ post)
    (hpre : ∀ x ∈ pre, ¬ B x) (hpost : ∀ x ∈ post, ¬ A x)
    (i j : Nat) (hi : i < l.length) (hj : j < l.length) (ha : A l[i]) (hb : B l[j]) : i < j := by
  subst hl
  rcases Nat.lt_or_ge i pre.length with h1 | h1
  · rcases Nat.lt_or_ge j pre.length with h2 | h2
    · rw [List.getElem_append_left h2] at hb
      exact absurd hb (hpre _ (List.getElem_mem _))
    · omega
  · rw [List.getElem_append_right h1] at ha
    exact absurd ha (hpost _ (List.getElem_mem _))

theorem set_app_right {α} (a b : List α) (i : Nat) (v : α) : (a ++ b).set (a.length + i) v = a ++ b.set i v := by
  simp

theorem UInt8.xor_xor_cancel_right' (b c : UInt8) : b ^^^ c ^^^ c = b := by
  rw [UInt8.xor_assoc, UInt8.xor_self, UInt8.xor_zero]

theorem UInt8.xor_xor_eq_self_iff (a x y : UInt8) : a ^^^ x ^^^ y = a ↔ x = y := by
  constructor
  · intro h
    have h1 : a ^^^ (x ^^^ y) = a ^^^ 0 := by rw [← UInt8.xor_assoc, h, UInt8.xor_zero]
    exact UInt8.xor_eq_zero_iff.mp ((UInt8.xor_right_inj a).mp h1)
  · intro h
    rw [h, UInt8.xor_xor_cancel_right']

theorem bytes_rev_ind {α : Type} {P : List α → Prop} (h0 : P [])
    (h1 : ∀ l a, P l → P (l ++ [a])) (l : List α) : P l := by
  have : ∀ l : List α, P l.reverse := by
    intro l
    induction l with
    | nil => exact h0
    | cons a l ih => rw [List.reverse_cons]; exact h1 _ _ ih
  simpa using this l.reverse

inductive All2 {α : Type} (R : α → α → Prop) : List α → List α → Prop
  | nil : All2 R [] []
  | cons {a b : α} {as bs : List α} : R a b → All2 R as bs → All2 R (a :: as) (b :: bs)

theorem All2.refl {α : Type} {R : α → α → Prop} (hR : ∀ a, R a a) (l : List α) : All2 R l l := by
  induction l with
  | nil => exact .nil
  | cons a l ih => exact .cons (hR a) ih

theorem All2.symm {α : Type} {R : α → α → Prop} (hR : ∀ a b, R a b → R b a) {l m : List α}
    (h : All2 R l m) : All2 R m l := by
  induction h with
  | nil => exact .nil
  | cons h _ ih => exact .cons (hR _ _ h) ih

theorem All2.trans {α : Type} {R : α → α → Prop} (hR : ∀ a b c, R a b → R b c → R a c) {l m n : List α}
    (h : All2 R l m) (g : All2 R m n) : All2 R l n := by
  induction h generalizing n with
  | nil => cases g; exact .nil
  | cons h _ ih =>
    cases g with
    | cons g1 g2 => exact .cons (hR _ _ _ h g1) (ih g2)

theorem All2.length_eq {α : Type} {R : α → α → Prop} {l m : List α} (h : All2 R l m) :
    l.length = m.length := by
  induction h with
  | nil => rfl
  | cons _ _ ih => simp only [List.length_cons, ih]

theorem All2.getElem {α : Type} {R : α → α → Prop} {l m : List α} (h : All2 R l m) (k : Nat)
    (h1 : k < l.length) (h2 : k < m.length) : R l[k] m[k] := by
  induction h generalizing k with
  | nil => simp at h1
  | cons h _ ih =>
    cases k with
    | zero => exact h
    | succ k => exact ih k (by simpa using h1) (by simpa using h2)

theorem All2.mono {α : Type} {R S : α → α → Prop} {l m : List α} (h : All2 R l m)
    (hRS : ∀ a b, a ∈ l → b ∈ m → R a b → S a b) : All2 S l m := by
  induction h with
  | nil => exact .nil
  | cons h _ ih =>
    exact .cons (hRS _ _ (by simp) (by simp) h)
      (ih (fun a b ha hb => hRS a b (List.mem_cons_of_mem _ ha) (List.mem_cons_of_mem _ hb)))

theorem filterMap_idem {α} (f : α → Option α) (h : ∀ e e', f e = some e' → f e' = some e') (l : List α) :
    (l.filterMap f).filterMap f = l.filterMap f := by
  induction l with
  | nil => rfl
  | cons a l ih =>
    simp only [List.filterMap_cons]
    cases hf : f a with
    | none => simpa using ih
    | some a' => simp [h a a' hf, ih]

theorem filter_not_idem {α : Type} (p : α → Bool) (l : List α) :
    (l.filter (fun a => !p a)).filter (fun a => !p a) = l.filter (fun a => !p a) := by
  simp [List.filter_filter]

theorem filter_eq_self_of_none {α : Type} (p : α → Bool) (l : List α) (h : l.any p = false) :
    l.filter (fun a => !p a) = l :=
  List.filter_eq_self.2 fun a ha => by simpa using List.any_eq_false.1 h a ha

/-- a list on which `p` is constant is not reordered by sorting it on `p` -/
theorem filter_not_append_filter {α} {p : α → Bool} : ∀ {l : List α},
    (∀ x ∈ l, ∀ y ∈ l, p x = p y) → l.filter (fun x => !p x) ++ l.filter p = l
  | [], _ => rfl
  | q :: l, h => by
    have hq : ∀ x ∈ q :: l, p x = p q := fun x hx => h x hx q List.mem_cons_self
    cases hw : p q
    · rw [List.filter_eq_self.2 fun x hx => by simp [hq x hx, hw],
        List.filter_eq_nil_iff.2 fun x hx => by simp [hq x hx, hw], List.append_nil]
    · rw [List.filter_eq_nil_iff.2 fun x hx => by simp [hq x hx, hw],
        List.filter_eq_self.2 fun x hx => by simp [hq x hx, hw], List.nil_append]

theorem u8_ofNat_eq (a : UInt8) (n : Nat) (h : n = a.toNat) : UInt8.ofNat n = a := by
  subst h; exact UInt8.ofNat_toNat

theorem find?_filter_key {α κ : Type} [BEq κ] [LawfulBEq κ] {key : α → κ} {k : κ} {p : α → Bool}
    (h : ∀ x, key x = k → p x = true) (l : List α) :
    (l.filter p).find? (key · == k) = l.find? (key · == k) := by
  rw [List.find?_filter]
  congr 1
  funext x
  by_cases hx : key x = k <;> simp [hx, h]

theorem except_map_ok {ε α β : Type} {f : α → β} {x : Except ε α} {y : β} (h : x.map f = .ok y) :
    ∃ b, x = .ok b ∧ f b = y := by
  cases x with
  | error e => cases h
  | ok b => exact ⟨b, rfl, by injection h⟩

theorem prefix_dropLast {α} {q p : List α} (h : q <+: p) (hne : q ≠ p) : q <+: p.dropLast := by
  obtain ⟨t, rfl⟩ := h
  have ht : t ≠ [] := by intro e; subst e; simp at hne
  rw [List.dropLast_append_of_ne_nil ht]
  exact List.prefix_append _ _

theorem find?_filter_ne {α β : Type} [BEq α] [LawfulBEq α] (l : List (α × β)) (a b : α) (h : b ≠ a) :
    (l.filter (·.1 != a)).find? (·.1 == b) = l.find? (·.1 == b) :=
  find?_filter_key (fun x hx => by simpa [hx] using h) l

theorem find?_filter_append_ne {α β : Type} [BEq α] [LawfulBEq α] (l : List (α × β)) (a b : α) (v : β) (h : b ≠ a) :
    ((l.filter (·.1 != a)) ++ [(a, v)]).find? (·.1 == b) = l.find? (·.1 == b) := by
  rw [List.find?_append, find?_filter_ne l a b h]
  have : (a == b) = false := by simpa using Ne.symm h
  simp [this]

theorem find?_filter_append_eq {α β : Type} [BEq α] [LawfulBEq α] (l : List (α × β)) (a : α) (v : β) :
    ((l.filter (·.1 != a)) ++ [(a, v)]).find? (·.1 == a) = some (a, v) := by
  rw [List.find?_append, List.find?_eq_none.2 (by simp)]
  simp

theorem filter_filter_of_imp {α : Type} (l : List α) (P Q : α → Bool) (h : ∀ x ∈ l, Q x = true → P x = true) :
    (l.filter P).filter Q = l.filter Q := by
  rw [List.filter_filter]
  apply List.filter_congr
  intro x hx
  cases hq : Q x with
  | false => rfl
  | true => simp [h x hx hq]

theorem dropLast_ne {α} {p : List α} (hp : p ≠ []) : p.dropLast ≠ p := by
  intro e
  have := congrArg List.length e
  have hl : 0 < p.length := List.length_pos_iff.2 hp
  simp at this; omega

end Pna
