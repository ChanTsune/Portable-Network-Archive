import PnaVerif.Lemmas.PipelineData
import PnaVerif.Lemmas.Ctr
import PnaVerif.Lemmas.CbcWriter
/-!
  For property C16 ("only the right key reads"): what reading with a *different* key
  yields, for the CTR and the CBC layer.  Nothing is assumed of the block cipher beyond
  `BlockPerm.Lawful` (and for CTR nothing at all), so the results are characterisations:
  the wrong key reads the original exactly when the two keyed ciphers agree on everything
  that was actually used.  The CBC side is `cbcDecrypt_cbcEncrypt_iff` (Lemmas/CbcRef.lean)
  applied to what the writer emits; `ctr_store_wrong_key_reads` says what a stored CTR entry reads
  as under any key (always `ok`, of the double keystream application).
-/
namespace Pna

section
variable (P : BlockPerm) (k k2 iv : Bytes) (pos : Nat) (pt : Bytes)

theorem wk_ctr_two_keys_getElem? (i : Nat) :
    (ctrApply P k2 iv pos (ctrApply P k iv pos pt))[i]?
      = pt[i]?.map (· ^^^ ctrKeystream P k iv (pos + i) ^^^ ctrKeystream P k2 iv (pos + i)) := by
  rw [ctrApply_getElem?, ctrApply_getElem?, Option.map_map]
  rfl

theorem wk_ctr_wrong_key_iff_pos :
    ctrApply P k2 iv pos (ctrApply P k iv pos pt) = pt ↔
      ∀ i, i < pt.length → ctrKeystream P k iv (pos + i) = ctrKeystream P k2 iv (pos + i) := by
  rw [List.ext_getElem?_iff]
  constructor
  · intro h i hi
    have hi' := h i
    rw [wk_ctr_two_keys_getElem?, List.getElem?_eq_getElem hi, Option.map_some] at hi'
    exact (UInt8.xor_xor_eq_self_iff _ _ _).mp (Option.some.inj hi')
  · intro h i
    rw [wk_ctr_two_keys_getElem?]
    by_cases hi : i < pt.length
    · rw [List.getElem?_eq_getElem hi, Option.map_some, (UInt8.xor_xor_eq_self_iff _ _ _).mpr (h i hi)]
    · rw [List.getElem?_eq_none (Nat.le_of_not_lt hi), Option.map_none]

end

theorem ctr_store_wrong_key_reads (P : BlockPerm) (k k2 iv : Bytes) (hiv : iv.length = 16) (ws : List Bytes) :
    readData P storeCompressor .ctr k2 (buildData P storeCompressor .ctr k iv ws)
      = .ok (ctrApply P k2 iv 0 (ctrApply P k iv 0 ws.flatten)) := by
  rw [readData_enc P storeCompressor .ctr k2 _ iv _ (by decide)
    (buildData_flatten P storeCompressor .ctr k iv ws (by decide)) hiv]
  simp only [decryptStream, cipherWrites, ctrWriterRun_flatten]
  rfl

theorem wk_cbc_wrong_key_iff (P : BlockPerm) (hP : P.Lawful) (k k2 iv : Bytes) (hiv : iv.length = 16)
    (ws : List Bytes) :
    cbcDecrypt P k2 iv (cbcWriterRun P k iv ws).flatten = .ok ws.flatten ↔
      ∀ c ∈ cbcWriterRun P k iv ws, P.D k2 c = P.D k c := by
  rw [cbcWriterRun_eq]
  exact cbcDecrypt_cbcEncrypt_iff P hP k k2 ws.flatten iv hiv

end Pna
