import PnaVerif.Lemmas.CbcRef
/-!
  The CBC encrypting writer (`CbcW`, lib/src/cipher/block/write.rs) against the reference
  `cbcEncrypt`: the ciphertext does not depend on how the caller slices the plaintext into
  `write` calls.  No law of the block cipher is used for that: `P : BlockPerm` is arbitrary (only
  `cbcWriterRun_all16`, that every inner write is a full block, asks for a lawful one).

  A state stands for what it will have emitted once the remaining data has been written and
  `finish` called (`CbcW.final`).  A `write` of `b` leaves a state whose `final` on `data` is the
  old one on `b ++ data`, so the run over any partition emits `final` of the concatenation.
-/
namespace Pna

section
variable (P : BlockPerm) (k : Bytes)

/-- All the inner writes of a run that continues from `s` with `data` and then `finish`. -/
def CbcW.final (s : CbcW) (data : Bytes) : List Bytes :=
  s.out ++ cbcEncBlocks P k s.chain (toBlocks (pkcs7Pad (s.buf ++ data)))

theorem CbcW.final_encBlock (s : CbcW) (b data : Bytes)
    (hs : s.buf = []) (hb : b.length = 16) :
    (s.encBlock P k b).final P k data = s.final P k (b ++ data) := by
  simp only [CbcW.final, CbcW.encBlock, hs, List.nil_append, padBlocks_append b data hb,
    cbcEncBlocks, List.append_assoc, List.singleton_append]

theorem CbcW.loop_final (d data : Bytes) :
    ∀ s : CbcW, s.buf = [] →
      (CbcW.loop P k s (rustChunks 16 d)).buf.length < 16 ∧
      (CbcW.loop P k s (rustChunks 16 d)).final P k data = s.final P k (d ++ data) := by
  induction d using chunks_induction 16 (by decide) with
  | small r hr =>
    intro s hs
    by_cases hne : r = []
    · rw [hne, rustChunks_nil, CbcW.loop, hs]; exact ⟨by decide, rfl⟩
    · rw [rustChunks_small 16 r (by omega) hne, CbcW.loop, if_neg (by omega), CbcW.loop]
      exact ⟨by show (s.buf ++ r).length < 16; rw [hs]; exact hr,
        by simp only [CbcW.final, hs, List.nil_append]⟩
  | full b rest hb ih =>
    intro s hs
    rw [rustChunks_append 16 (by decide) b rest hb, CbcW.loop, if_pos hb, List.append_assoc,
      ← CbcW.final_encBlock P k s b _ hs hb]
    exact ih _ hs

theorem CbcW.write_final (s : CbcW) (b data : Bytes)
    (hs : s.buf.length < 16) :
    (s.write P k b).buf.length < 16 ∧ (s.write P k b).final P k data = s.final P k (b ++ data) := by
  unfold CbcW.write
  by_cases hlt : b.length + s.buf.length < 16
  · rw [if_pos hlt]
    exact ⟨by rw [List.length_append]; omega, by simp only [CbcW.final, List.append_assoc]⟩
  · rw [if_neg hlt]
    simp only []
    have hfl : (s.buf ++ b.take (16 - s.buf.length)).length = 16 := by
      rw [List.length_append, List.length_take]; omega
    obtain ⟨h1, h2⟩ := CbcW.loop_final P k (b.drop (16 - s.buf.length)) data
      (({ s with buf := [] } : CbcW).encBlock P k (s.buf ++ b.take (16 - s.buf.length))) rfl
    refine ⟨h1, ?_⟩
    rw [h2, CbcW.final_encBlock P k _ _ _ rfl hfl, List.append_assoc,
      ← List.append_assoc (b.take _), List.take_append_drop]
    rfl

theorem CbcW.finish_out (s : CbcW) (hs : s.buf.length < 16) :
    (s.finish P k).out = s.final P k [] := by
  simp only [CbcW.final, List.append_nil, padBlocks_small s.buf hs, CbcW.finish, CbcW.encBlock,
    cbcEncBlocks]

theorem CbcW.run_out (ws : List Bytes) :
    ∀ s : CbcW, s.buf.length < 16 →
      ((ws.foldl (CbcW.write P k) s).finish P k).out = s.final P k ws.flatten := by
  induction ws with
  | nil => exact CbcW.finish_out P k
  | cons w ws ih =>
    intro s hs
    obtain ⟨h1, h2⟩ := CbcW.write_final P k s w ws.flatten hs
    rw [List.foldl_cons, ih _ h1, h2, List.flatten_cons]

theorem cbcWriterRun_eq (iv : Bytes) (ws : List Bytes) :
    cbcWriterRun P k iv ws = cbcEncBlocks P k iv (toBlocks (pkcs7Pad ws.flatten)) :=
  CbcW.run_out P k ws (CbcW.init iv) (Nat.succ_pos 15)

theorem cbcWriterRun_all16 (hP : P.Lawful) (iv : Bytes) (hiv : iv.length = 16)
    (ws : List Bytes) : ∀ c ∈ cbcWriterRun P k iv ws, c.length = 16 := by
  rw [cbcWriterRun_eq]
  exact cbcEncBlocks_all16 P hP k _ iv hiv (padBlocks_all16 ws.flatten).2

theorem cbcWriterRun_flatten (iv : Bytes) (ws : List Bytes) :
    (cbcWriterRun P k iv ws).flatten = cbcEncrypt P k iv ws.flatten := by
  rw [cbcWriterRun_eq, cbcEncrypt]

end

end Pna
