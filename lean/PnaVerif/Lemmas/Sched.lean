import PnaVerif.Model.Cli.Sched
/-! Schedule independence of the pipeline shapes (`Model/Cli/Sched.lean`), for `Props/C19.lean`.  `Joins` covers the shapes
    that submit nothing while a task runs (`scopePerItem`, `single`): `Inv` then holds along every trace and the results
    arrive in submission order (`joins_deterministic`).  That a shape is NOT deterministic is shown by one trace: two
    tasks in flight, the second finishes first (`not_deterministic_of_run`, evaluated for `scopeAroundLoop`). -/
namespace Pna.Cli.Sched

/-- invariant of the shapes that join: at most the last submitted item is running, and what has arrived
    plus what is running is exactly what has been submitted, in order -/
def Inv (s : St) : Prop := s.chan ++ s.running = List.range s.next ∧ s.running.length ≤ 1

/-- the scope joins before the next item is submitted (`scope_fifo` per item; a single task) -/
def Joins (sh : Shape) : Prop := ∀ s, canSpawn sh s = true → s.running = []

theorem step_inv (sh : Shape) (hj : Joins sh) (n : Nat) (s s' : St) (e : Ev) (h : Inv s)
    (hs : step sh n s e = some s') : Inv s' := by
  obtain ⟨h1, h2⟩ := h
  revert hs
  fun_cases step sh n s e <;> rintro ⟨⟩
  · rename_i hc
    have hr : s.running = [] := hj s hc.2
    simp only [Inv, hr, List.append_nil, List.nil_append, List.length_singleton, Nat.le_refl, and_true] at h1 ⊢
    rw [List.range_succ, h1]
  · rename_i i hi
    match hr : s.running, h2, hi with
    | [j], _, hi =>
      have : i = j := by simpa using hi
      subst this
      simp only [Inv, hr] at h1 ⊢
      simp [h1]
    | [], _, hi => simp at hi
    | _ :: _ :: _, h2, _ => simp at h2

theorem run_inv (sh : Shape) (hj : Joins sh) (n : Nat) :
    ∀ (tr : List Ev) (s s' : St), Inv s → run sh n s tr = some s' → Inv s'
  | [], s, s', h, hr => by simp [run] at hr; subst hr; exact h
  | e :: es, s, s', h, hr => by
    simp only [run] at hr
    cases hst : step sh n s e with
    | none => simp [hst] at hr
    | some s1 =>
      simp only [hst] at hr
      exact run_inv sh hj n es s1 s' (step_inv sh hj n s s1 e h hst) hr

theorem joins_deterministic (sh : Shape) (hj : Joins sh) : Deterministic sh := by
  intro n tr s hr ⟨hn, hrun⟩
  obtain ⟨h1, _⟩ := run_inv sh hj n tr {} s (by simp [Inv]) hr
  rw [hrun, hn] at h1
  simpa using h1

theorem scopePerItem_deterministic : Deterministic .scopePerItem :=
  joins_deterministic _ fun s h => by simpa [canSpawn] using h

theorem single_deterministic : Deterministic .single :=
  joins_deterministic _ fun s h => by
    simp only [canSpawn, Bool.and_eq_true, List.isEmpty_iff] at h
    exact h.1

/-- a shape that lets two tasks be in flight admits the schedule in which the second finishes
    first -/
theorem not_deterministic_of_run {sh : Shape}
    (h : run sh 2 {} [.spawn, .spawn, .finish 1, .finish 0] = some ⟨2, [], [1, 0]⟩) :
    ¬ Deterministic sh :=
  fun hd => absurd (hd 2 _ _ h ⟨rfl, rfl⟩) (by decide)

theorem scopeAroundLoop_not_deterministic : ¬ Deterministic .scopeAroundLoop :=
  not_deterministic_of_run (by decide)

end Pna.Cli.Sched
