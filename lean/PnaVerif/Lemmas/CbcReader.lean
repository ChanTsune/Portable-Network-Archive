import PnaVerif.Lemmas.CbcRef
/-! CBC decrypting reader (`CbcR`) against the reference `cbcDecrypt`: schedule independence,
    liveness, absence of panics.

    A state stands for the rest of the plaintext stream: the parked bytes, then the reference
    decryption of look-ahead block ++ unread ciphertext with the previous block as IV
    (`cbcrFuture`).  One loop iteration is one use of `cbcDecrypt_append`. -/
namespace Pna

section
variable (P : BlockPerm) (k : Bytes)

theorem cbcr_min16 (need len : Nat) (h : len ≤ 16) : min (min 16 need) len = min need len := by
  rw [Nat.min_comm 16, Nat.min_assoc, Nat.min_eq_right h]

/-- One iteration of the loop without its `min`s; `p` is the plaintext of the look-ahead block. -/
theorem cbcr_blocks_succ (fuel : Nat) (s : CbcR) (need : Nat) (acc p : Bytes)
    (hp : xorBytes (P.D k s.buf) s.chain = p) (hpl : p.length ≤ 16) :
    CbcR.blocks P k (fuel + 1) s need acc =
      if s.inner = [] then
        match pkcs7Unpad p with
        | none => .error .invalidData
        | some blk => .ok (⟨[], s.buf, s.remaining ++ blk.drop need, s.buf, true⟩, acc ++ blk.take need)
      else if s.inner.length < 16 then .error .eof
      else if need ≤ p.length then
        .ok (⟨s.inner.drop 16, s.buf, s.remaining ++ p.drop need, s.inner.take 16, false⟩, acc ++ p.take need)
      else
        CbcR.blocks P k fuel ⟨s.inner.drop 16, s.buf, s.remaining, s.inner.take 16, false⟩
          (need - p.length) (acc ++ p) := by
  by_cases h0 : s.inner = []
  · simp only [CbcR.blocks, pullBlock, h0, hp, List.take_nil, List.drop_nil, List.length_nil, ne_eq,
      not_true_eq_false, false_and, if_false, if_true, true_or, decide_true]
    cases hu : pkcs7Unpad p with
    | none => rfl
    | some blk =>
      have := pkcs7Unpad_length _ _ hu
      -- the model drops `w = min need blk.length`, the statement `need`: equal, `drop` caps its count at the length
      simp only [cbcr_min16 need _ (by omega : blk.length ≤ 16), ← List.take_eq_take_min,
        List.drop_eq_drop_iff.mpr (by rw [Nat.min_assoc, Nat.min_self] : min (min need blk.length) blk.length = min need blk.length)]
  · have hpos : 0 < s.inner.length := List.length_pos_iff.mpr h0
    rw [if_neg h0]
    by_cases h1 : s.inner.length < 16
    · have hl : (s.inner.take 16).length = s.inner.length := by rw [List.length_take]; omega
      simp only [CbcR.blocks, pullBlock, hl]
      rw [if_pos ⟨by omega, by omega⟩, if_pos h1]
    · have hl : (s.inner.take 16).length = 16 := by rw [List.length_take]; omega
      simp only [CbcR.blocks, pullBlock, hl, hp, Nat.reduceEqDiff, ne_eq, not_true_eq_false, and_false,
        if_false, false_or, decide_false]
      rw [if_neg h1, cbcr_min16 need _ hpl]
      by_cases h : need ≤ p.length
      · rw [if_pos h, Nat.min_eq_left h, if_pos (Nat.le_refl _)]
      · rw [if_neg h, Nat.min_eq_right (Nat.le_of_not_le h), if_neg h, List.take_length]

/-- What the reader will still deliver from state `s` (reference semantics). -/
def cbcrFuture (s : CbcR) : Outcome Bytes :=
  if s.eof then .ok s.remaining
  else cbcrPre s.remaining (cbcDecrypt P k s.chain (s.buf ++ s.inner))

/-- Upper bound on the number of plaintext bytes still to come. -/
def cbcrMeasure (s : CbcR) : Nat :=
  s.remaining.length + if s.eof then 0 else 16 + s.inner.length

/-- Post-condition of `blocks` / `read`: `ref` is the reference future before the call, `acc`
    what had been delivered before, `μ` the measure before. -/
def cbcrPost (ref : Outcome Bytes) (acc : Bytes) (μ : Nat) : Outcome (CbcR × Bytes) → Prop
  | .ok (s', acc') => ∃ out, acc' = acc ++ out ∧ ref = cbcrPre out (cbcrFuture P k s') ∧
      s'.buf.length = 16 ∧ (out = [] → s'.eof = true ∧ s'.remaining = []) ∧
      out.length + cbcrMeasure s' ≤ μ
  | .error e => ref = .error e
  | .panic _ => False

theorem cbcrPost_shift (ref ref' : Outcome Bytes) (acc p : Bytes)
    (μ μ' : Nat) (r : Outcome (CbcR × Bytes)) (h : cbcrPost P k ref' (acc ++ p) μ' r)
    (href : ref = cbcrPre p ref') (hμ : p.length + μ' ≤ μ) : cbcrPost P k ref acc μ r := by
  cases r with
  | ok x =>
    obtain ⟨s', acc'⟩ := x
    obtain ⟨out, h1, h2, h3, h4, h5⟩ := h
    refine ⟨p ++ out, ?_, ?_, h3, ?_, ?_⟩
    · rw [h1, List.append_assoc]
    · rw [href, h2, cbcrPre_append]
    · intro h0
      exact h4 (List.append_eq_nil_iff.mp h0).2
    · rw [List.length_append]; omega
  | error e =>
    show ref = .error e
    have h' : ref' = .error e := h
    rw [href, h']; rfl
  | panic m => exact h

theorem cbcrPost_serve (s : CbcR) (a b acc : Bytes) (ref : Outcome Bytes)
    (μ : Nat) (hs : s.remaining = a ++ b) (hbuf : s.buf.length = 16)
    (h0 : a = [] → s.eof = true ∧ b = []) (href : ref = cbcrFuture P k s) (hμ : cbcrMeasure s ≤ μ) :
    cbcrPost P k ref acc μ (.ok ({ s with remaining := b }, acc ++ a)) := by
  refine ⟨a, rfl, ?_, hbuf, h0, ?_⟩
  · rw [href]
    unfold cbcrFuture
    by_cases he : s.eof = true
    · rw [if_pos he, if_pos he, hs, cbcrPre_ok]
    · rw [if_neg he, if_neg he, hs, cbcrPre_append]
  · simp only [cbcrMeasure, hs, List.length_append] at hμ ⊢
    omega

/-- `read` without its `min`s. -/
theorem cbcr_read_eq (s : CbcR) (n : Nat) (hn : 0 < n) :
    s.read P k n =
      if n ≤ s.remaining.length then
        .ok ({ s with remaining := s.remaining.drop n }, s.remaining.take n)
      else if s.eof then .ok ({ s with remaining := [] }, s.remaining)
      else CbcR.blocks P k (n + 1) { s with remaining := [] } (n - s.remaining.length) s.remaining := by
  unfold CbcR.read
  rw [if_neg (Nat.ne_of_gt hn)]
  simp only []
  by_cases h : n ≤ s.remaining.length
  · rw [if_pos h, Nat.min_eq_right h, if_pos ⟨hn, Nat.le_refl n⟩]
  · rw [if_neg h, Nat.min_eq_left (Nat.le_of_not_le h), if_neg (fun hh => h hh.2),
      List.drop_length, List.take_length]

theorem cbcr_new_eq (iv ct : Bytes) :
    CbcR.new iv ct = if (ct.take 16).length ≠ 16 then .error .eof
      else .ok ⟨ct.drop 16, iv, [], ct.take 16, false⟩ := rfl

variable (hD : ∀ b : Bytes, b.length = 16 → (P.D k b).length = 16)
include hD

/-- The loop of `read` against the reference.  The fuel hypothesis has two forms because the first look-ahead block is
    decrypted against the IV, whose length `CbcR.new` does not check: its plaintext may be shorter than 16 bytes, even
    empty, and `need` then does not drop by a block; the spare unit in `need < fuel` pays for that (`read` passes fuel
    `n + 1` with `need ≤ n`).  From the second block on `chain` is a ciphertext block and `need ≤ fuel` is enough. -/
theorem cbcr_blocks_spec (fuel : Nat) :
    ∀ (s : CbcR) (need : Nat) (acc : Bytes),
      s.buf.length = 16 → s.remaining = [] → 0 < need →
      (need < fuel ∨ (s.chain.length = 16 ∧ need ≤ fuel)) →
      cbcrPost P k (cbcDecrypt P k s.chain (s.buf ++ s.inner)) acc (16 + s.inner.length)
        (CbcR.blocks P k fuel s need acc) := by
  induction fuel with
  | zero => intro s need acc _ _ h0 hf; omega
  | succ fuel ih =>
    intro s need acc hbuf hrem hneed hfuel
    obtain ⟨p, hp⟩ : ∃ p, xorBytes (P.D k s.buf) s.chain = p := ⟨_, rfl⟩
    have hplen : p.length = min 16 s.chain.length := by rw [← hp, xorBytes_length, hD _ hbuf]
    have hp16 : p.length ≤ 16 := by omega
    -- `need < fuel` pays for a first block shorter than 16 bytes (an IV of another length);
    -- from the second block on `chain` is a ciphertext block and `p` is full
    have hfuel' : need - p.length ≤ fuel := by omega
    -- the `omega`s below need only `hp16` and `hfuel'`; left in, every one of them splits on the `min` and the `∨`
    clear hplen hfuel
    rw [cbcr_blocks_succ P k fuel s need acc p hp hp16]
    simp only [hrem, List.nil_append]
    by_cases hnil : s.inner = []
    · rw [if_pos hnil, hnil, List.append_nil, cbcDecrypt_single P k _ _ hbuf, hp]
      cases hu : pkcs7Unpad p with
      | none => exact rfl
      | some blk =>
        have := pkcs7Unpad_length _ _ hu
        exact cbcrPost_serve P k ⟨[], s.buf, blk, s.buf, true⟩ _ _ acc _ _
          (List.take_append_drop need blk).symm hbuf
          (fun h0 => ⟨rfl, by rw [(List.take_eq_nil_iff.mp h0).resolve_left (by omega), List.drop_nil]⟩)
          rfl (by show blk.length + 0 ≤ 16 + 0; omega)
    · have hpos : 0 < s.inner.length := List.length_pos_iff.mpr hnil
      rw [if_neg hnil, cbcDecrypt_append P k _ _ _ hbuf hnil, hp]
      by_cases hlt : s.inner.length < 16
      · rw [if_pos hlt, cbcDecrypt_of_mod P k _ _ (by omega)]
        exact rfl
      · have h16t : (s.inner.take 16).length = 16 := by rw [List.length_take]; omega
        have hlen : (s.inner.drop 16).length + 16 = s.inner.length := by rw [List.length_drop]; omega
        -- the state after this block stands for the same stream
        have hfut : cbcDecrypt P k s.buf s.inner
            = cbcDecrypt P k s.buf (s.inner.take 16 ++ s.inner.drop 16) := by
          rw [List.take_append_drop]
        rw [if_neg hlt, hfut]
        by_cases hnw : need ≤ p.length
        · rw [if_pos hnw]
          refine cbcrPost_serve P k ⟨s.inner.drop 16, s.buf, p, s.inner.take 16, false⟩ _ _ acc _ _
            (List.take_append_drop need p).symm h16t (fun h0 => ?_) rfl ?_
          · rw [(List.take_eq_nil_iff.mp h0).resolve_left (by omega)] at hnw
            exact absurd hnw (Nat.not_le.mpr hneed)
          · show p.length + (16 + (s.inner.drop 16).length) ≤ _
            omega
        · rw [if_neg hnw]
          refine cbcrPost_shift P k _ _ acc p _ (16 + (s.inner.drop 16).length) _
            (ih ⟨s.inner.drop 16, s.buf, [], s.inner.take 16, false⟩ (need - p.length) (acc ++ p) h16t
              rfl (by omega) (Or.inr ⟨hbuf, hfuel'⟩)) rfl (by omega)

theorem cbcr_read_spec (s : CbcR) (n : Nat) (hn : 0 < n) (hbuf : s.buf.length = 16) :
    cbcrPost P k (cbcrFuture P k s) [] (cbcrMeasure s) (s.read P k n) := by
  rw [cbcr_read_eq P k s n hn]
  by_cases h : n ≤ s.remaining.length
  · rw [if_pos h]
    refine cbcrPost_serve P k s _ _ [] _ _ (List.take_append_drop n _).symm hbuf (fun h0 => ?_)
      rfl (Nat.le_refl _)
    rw [(List.take_eq_nil_iff.mp h0).resolve_left (by omega)] at h
    exact absurd h (Nat.not_le.mpr hn)
  · rw [if_neg h]
    by_cases he : s.eof = true
    · rw [if_pos he]
      exact cbcrPost_serve P k s _ [] [] _ _ (List.append_nil _).symm hbuf (fun _ => ⟨he, rfl⟩)
        rfl (Nat.le_refl _)
    · rw [if_neg he]
      refine cbcrPost_shift P k _ _ [] s.remaining _ _ _
        (cbcr_blocks_spec P k hD (n + 1) { s with remaining := [] } (n - s.remaining.length)
          s.remaining hbuf rfl (by omega) (Or.inl (by omega))) ?_ ?_
      · rw [cbcrFuture, if_neg he]
      · rw [cbcrMeasure, if_neg he]
        exact Nat.le_refl _

/-- The bound on a schedule that ran out: every call before the one that signals the end returns at
    least one byte, and `cbcrMeasure` bounds what is still to come. -/
theorem cbcr_readToEnd_spec (sched : List Nat) (hpos : ∀ n ∈ sched, 0 < n) :
    ∀ (s : CbcR) (acc : Bytes), s.buf.length = 16 →
      s.readToEnd P k acc sched = some (cbcrPre acc (cbcrFuture P k s)) ∨
      (s.readToEnd P k acc sched = none ∧ sched.length ≤ cbcrMeasure s) := by
  induction sched with
  | nil => exact fun s acc _ => Or.inr ⟨rfl, Nat.zero_le _⟩
  | cons n ns ih =>
    intro s acc hbuf
    have hp := cbcr_read_spec P k hD s n (hpos n List.mem_cons_self) hbuf
    unfold CbcR.readToEnd
    generalize s.read P k n = r at hp
    cases r with
    | error e =>
      rw [show cbcrFuture P k s = .error e from hp]
      exact Or.inl rfl
    | panic m => exact absurd hp id
    | ok x =>
      obtain ⟨s', out⟩ := x
      obtain ⟨out', h1, h2, h3, h4, h5⟩ := hp
      rw [List.nil_append] at h1
      subst h1
      simp only []
      by_cases ho : out = []
      · obtain ⟨he, hr⟩ := h4 ho
        rw [if_pos ho, h2, ho, cbcrPre_nil, cbcrFuture, if_pos he, hr, cbcrPre_ok, List.append_nil]
        exact Or.inl rfl
      · rw [if_neg ho, h2, ← cbcrPre_append]
        rcases ih (fun m hm => hpos m (List.mem_cons_of_mem _ hm)) s' (acc ++ out) h3 with h | ⟨h, hl⟩
        · exact Or.inl h
        · have : 0 < out.length := List.length_pos_iff.mpr ho
          exact Or.inr ⟨h, by rw [List.length_cons]; omega⟩

theorem cbcr_readAll_spec (iv ct : Bytes) (sched : List Nat) (hpos : ∀ n ∈ sched, 0 < n) :
    cbcReadAll P k iv ct sched = some (cbcDecrypt P k iv ct) ∨
    (cbcReadAll P k iv ct sched = none ∧ sched.length ≤ ct.length) := by
  unfold cbcReadAll
  rw [cbcr_new_eq, List.length_take]
  by_cases hlt : ct.length < 16
  · rw [if_pos (by omega), cbcr_cbcDecrypt_eq, if_pos (by omega)]
    exact Or.inl rfl
  · rw [if_neg (by omega)]
    rcases cbcr_readToEnd_spec P k hD sched hpos ⟨ct.drop 16, iv, [], ct.take 16, false⟩ []
      (by show (ct.take 16).length = 16; rw [List.length_take]; omega) with h | ⟨h, hl⟩
    · rw [cbcrPre_nil, cbcrFuture, if_neg Bool.false_ne_true, cbcrPre_nil] at h
      simp only [List.take_append_drop] at h
      exact Or.inl h
    · refine Or.inr ⟨h, ?_⟩
      have : cbcrMeasure ⟨ct.drop 16, iv, [], ct.take 16, false⟩ = 0 + (16 + (ct.drop 16).length) := rfl
      rw [this, List.length_drop] at hl
      omega

/-- For EVERY ciphertext (valid, truncated, corrupt): if `read_to_end` completes, its result —
    plaintext or error kind — is the reference decryption.  The only assumption on the cipher is
    `hD` (without it the untyped model allows empty or oversized "blocks"; see
    `cbcReadAll_sound_needs_hD`). -/
theorem cbcReadAll_sound (iv ct : Bytes) (sched : List Nat) (hpos : ∀ n ∈ sched, 0 < n)
    (x : Outcome Bytes) (h : cbcReadAll P k iv ct sched = some x) : x = cbcDecrypt P k iv ct := by
  rcases cbcr_readAll_spec P k hD iv ct sched hpos with h1 | ⟨h0, _⟩
  · rw [h1] at h
    exact (Option.some.inj h).symm
  · rw [h0] at h
    cases h

end

/-- The reader never reaches a panic outcome (in particular the fuel of `CbcR.blocks` suffices). -/
theorem cbcReadAll_no_panic (P : BlockPerm) (k iv ct : Bytes)
    (hD : ∀ b : Bytes, b.length = 16 → (P.D k b).length = 16)
    (sched : List Nat) (hpos : ∀ n ∈ sched, 0 < n)
    (m : String) : cbcReadAll P k iv ct sched ≠ some (.panic m) := by
  intro h
  exact cbcr_cbcDecrypt_no_panic P k iv ct m (cbcReadAll_sound P k hD iv ct sched hpos _ h).symm

/-- The hypothesis `hD` of the reader theorems cannot be dropped in this untyped model:
    with a "cipher" whose `D` returns empty blocks the loop makes no progress and the fuel
    of `CbcR.blocks` runs out, while `cbcDecrypt` never panics.  (Real block ciphers are
    length preserving, so this is an artefact of modelling blocks as lists.) -/
theorem cbcReadAll_sound_needs_hD :
    ∃ (P : BlockPerm) (k iv ct : Bytes) (sched : List Nat) (x : Outcome Bytes),
      (∀ n ∈ sched, 0 < n) ∧ cbcReadAll P k iv ct sched = some x ∧ x ≠ cbcDecrypt P k iv ct :=
  ⟨⟨fun _ b => b, fun _ _ => []⟩, [], List.replicate 16 0, List.replicate 48 1, [1, 1, 1, 1],
    .panic "fuel", by decide, by decide,
    fun h => cbcr_cbcDecrypt_no_panic _ _ _ _ _ h.symm⟩

/-- For a lawful cipher `hD` is `Lawful.lenD`. -/
theorem cbcReadAll_sound_of_lawful (P : BlockPerm) (hP : P.Lawful) (k iv ct : Bytes)
    (sched : List Nat) (hpos : ∀ n ∈ sched, 0 < n)
    (x : Outcome Bytes) (h : cbcReadAll P k iv ct sched = some x) : x = cbcDecrypt P k iv ct :=
  cbcReadAll_sound P k (hP.lenD k) iv ct sched hpos x h

end Pna
