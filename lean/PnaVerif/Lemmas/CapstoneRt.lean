import PnaVerif.Lemmas.EntryRt
import PnaVerif.Lemmas.Capstone
import PnaVerif.Props.C01
import PnaVerif.Lemmas.Solid
/-!
  The C01 capstone item by item: the entries the write model builds are well-formed, have no marker chunks and fit
  the 32-bit length field — all derived from the primitive conditions `LFile.WF` / `StreamCfg.OK` — and opening
  what was built gives the files back (`openEntry_recut`, `expandSolid_buildSolidW`, `openReadEntry_item`,
  `openAll_items`).
-/
namespace Pna.Capstone
open Pna ChunkType

theorem plain_ok : plain.OK where
  perm := ⟨fun _ _ _ => rfl, fun _ _ h => h, fun _ _ h => h⟩
  comp := C01.store_lawful
  iv := by decide
  phsfUtf8 := validUtf8_nil
  phsfFit := by decide
  codec := by decide
  cipher := Or.inl rfl

theorem validEncryption_cfg (cfg : StreamCfg) (h : cfg.OK) : validEncryption cfg.encryption = true := by
  unfold StreamCfg.encryption
  rcases h.cipher with h | h <;> rw [h] <;> cases cfg.sel <;> rfl

theorem validCipherMode_cfg (cfg : StreamCfg) : validCipherMode cfg.cipherMode = true := by
  unfold StreamCfg.cipherMode
  cases cfg.sel <;> rfl

theorem phsfChunk_some {cfg : StreamCfg} {p : Bytes} (h : cfg.phsfChunk = some p) : p = cfg.phsf := by
  unfold StreamCfg.phsfChunk at h
  split at h
  · cases h
  · exact (Option.some.inj h).symm

theorem readData_storedData (s : Sink) (cfg : StreamCfg) (h : cfg.OK) (ws : List Bytes) :
    readData cfg.P cfg.C cfg.sel cfg.key (storedData s cfg ws) = .ok ws.flatten := by
  cases s with
  | builder => exact C01.roundtrip_builder cfg.P h.perm cfg.C h.comp cfg.sel cfg.key cfg.iv h.iv ws
  | stream => exact C01.roundtrip_stream cfg.P h.perm cfg.C h.comp cfg.sel cfg.key cfg.iv h.iv ws

/-- the builder sink stores slices of at most `u32::MAX` bytes (and the 16-byte IV) -/
theorem slicesFit_builder (cfg : StreamCfg) (hiv : cfg.iv.length = 16) (ws : List Bytes) :
    SlicesFit (storedData .builder cfg ws) := by
  intro d hd
  have hfw : ∀ {ws'}, d ∈ flattenWriter maxChunkData ws' → d.length < 2 ^ 32 := fun h =>
    Nat.lt_of_le_of_lt (flattenWriter_pieces maxChunkData maxChunkData_pos _ d h).2 (by decide)
  simp only [storedData, buildData] at hd
  split at hd
  · exact hfw hd
  · rcases List.mem_cons.mp hd with rfl | hd
    · rw [hiv]
      decide
    · exact hfw hd

theorem buildNormalW_WF (s : Sink) (cfg : StreamCfg) (hc : cfg.OK) (f : LFile) (hf : f.WF) :
    (buildNormalW s cfg f).WF :=
  ⟨rfl, rfl, hf.kind, hc.codec, validEncryption_cfg cfg hc, validCipherMode_cfg cfg, hf.nameUtf8, hf.nameSan,
    hf.extraUn, fun _ hp => phsfChunk_some hp ▸ hc.phsfUtf8, hf.rawSize, hf.created, hf.modified, hf.accessed, hf.perm, hf.xattrs⟩

theorem buildNormalW_fit (s : Sink) (cfg : StreamCfg) (hc : cfg.OK) (f : LFile) (hf : f.WF) :
    ChunksFit (serN (buildNormalW s cfg f)) := by
  -- chunk by chunk: `simp` turns the statement into one clause per piece of `serN`
  unfold ChunksFit serN
  simp only [List.forall_mem_append, forall_mem_optChunk, List.forall_mem_map, List.mem_flatMap,
    Option.map_eq_some_iff, forall_exists_index, and_imp, forall_apply_eq_imp_iff₂, List.mem_singleton, forall_eq]
  have h64 : ∀ n, (encTime n).length < 2 ^ 32 := fun n => by rw [encTime_length]; decide
  refine ⟨⟨⟨⟨⟨⟨⟨⟨⟨⟨?_, hf.extraFit⟩, fun n _ => ?_⟩, fun _ hp => phsfChunk_some hp ▸ hc.phsfFit⟩, fun c d _ hu => ?_⟩,
    fun n _ => h64 n⟩, fun n _ => h64 n⟩, fun n _ => h64 n⟩, fun p hp => ?_⟩, fun x hx => ?_⟩, by decide⟩
  · rw [encFHED_length]
    exact hf.nameFit
  · have := encFSIZ_length_le n
    omega
  · obtain ⟨u, hu', rfl⟩ := List.mem_map.mp hu
    exact Nat.lt_of_le_of_lt (rustChunks_pieces maxChunkData maxChunkData_pos d u hu').2 (by decide)
  · obtain ⟨_, _, _, h4, h5, _, _⟩ := hf.perm p hp
    rw [encFPRM_length]
    omega
  · rw [encXATR_length]
    exact hf.xattrsFit x hx

/-- `.recut`: the entry as it comes back from the archive reader (data re-cut at `u32::MAX`). -/
theorem openNormal_recut (s : Sink) (cfg : StreamCfg) (hc : cfg.OK) (f : LFile) :
    openNormal cfg (buildNormalW s cfg f).recut = .ok f.writes.flatten := by
  unfold openNormal
  rw [readData_congr cfg.P cfg.C cfg.sel cfg.key _ (buildNormalW s cfg f).data
    (recut_meaning (buildNormalW s cfg f)).2.2.2.2.2]
  exact readData_storedData s cfg hc f.writes

theorem openEntry_recut (s : Sink) (cfg : StreamCfg) (hc : cfg.OK) (f : LFile) :
    openEntry cfg (buildNormalW s cfg f).recut = .ok f.out := by
  unfold openEntry
  rw [openNormal_recut s cfg hc f]
  rfl

theorem buildSolidW_WF (s : Sink) (cfg : StreamCfg) (hc : cfg.OK) (fs : List LFile) :
    (buildSolidW s cfg fs).WF := by
  refine ⟨(by decide : (0 : Nat) < 256), (by decide : (0 : Nat) < 256), hc.codec, validEncryption_cfg cfg hc,
    validCipherMode_cfg cfg, ?_, fun _ hp => phsfChunk_some hp ▸ hc.phsfUtf8⟩
  intro c h
  exact absurd h List.not_mem_nil

theorem buildSolidW_fit (s : Sink) (cfg : StreamCfg) (hc : cfg.OK) (fs : List LFile)
    (hfit : SlicesFit (storedData s cfg [innerStream fs])) :
    ChunksFit (serS (buildSolidW s cfg fs)) := by
  unfold ChunksFit serS
  simp only [List.forall_mem_append, forall_mem_optChunk, List.forall_mem_map, List.mem_singleton, forall_eq]
  exact ⟨⟨⟨⟨by simp [encSHED], nofun⟩, fun _ hp => phsfChunk_some hp ▸ hc.phsfFit⟩, hfit⟩, by decide⟩

theorem expandSolid_buildSolidW (s : Sink) (cfg : StreamCfg) (hc : cfg.OK) (fs : List LFile)
    (hf : ∀ f ∈ fs, f.WF) :
    expandSolid cfg (buildSolidW s cfg fs) = fs.map (fun f => .ok (buildNormal plain f).recut) := by
  have hr : readData cfg.P cfg.C cfg.sel cfg.key (buildSolidW s cfg fs).data = .ok (innerStream fs) := by
    have := readData_storedData s cfg hc [innerStream fs]
    rw [List.flatten_singleton] at this
    exact this
  unfold expandSolid
  rw [hr]
  simp only [innerStream]
  have := solidEntries_append (fs.map (buildNormal plain))
    (List.forall_mem_map.mpr fun f hfm => buildNormalW_WF .builder plain plain_ok f (hf f hfm))
    (List.forall_mem_map.mpr fun f hfm => buildNormalW_fit .builder plain plain_ok f (hf f hfm)) [] none
  rw [List.append_nil, solidEntries_nil, streamEnd_none, List.append_nil] at this
  rw [this, List.map_map]
  rfl

theorem openReadEntry_item (it : LItem) (hw : it.WF) :
    openReadEntry it.cfg (toReadEntry it).recut = it.files.map (fun f => .ok f.out) := by
  cases it with
  | file s cfg f =>
    show [openEntry cfg (buildNormalW s cfg f).recut] = [.ok f.out]
    rw [openEntry_recut s cfg hw.1 f]
  | block s cfg fs =>
    obtain ⟨hc, hf, _⟩ := hw
    show (expandSolid cfg (buildSolidW s cfg fs)).map _ = fs.map (fun f => Outcome.ok f.out)
    rw [expandSolid_buildSolidW s cfg hc fs hf, List.map_map]
    apply List.map_congr_left
    intro f _
    show openEntry plain (buildNormalW .builder plain f).recut = .ok f.out
    exact openEntry_recut .builder plain plain_ok f

theorem LItem.WF_intro (it : LItem) (hc : it.cfg.OK) (hf : ∀ f ∈ it.files, f.WF)
    (hfit : ∀ s cfg fs, it = .block s cfg fs → SlicesFit (storedData s cfg [innerStream fs])) : it.WF := by
  cases it with
  | file s cfg f => exact ⟨hc, hf f (by simp [LItem.files])⟩
  | block s cfg fs => exact ⟨hc, hf, hfit s cfg fs rfl⟩

/-- with the builder sink (`EntryBuilder`, `SolidEntryBuilder`) nothing is asked of the stored slices -/
theorem LItem.WF_builder (it : LItem) (hs : it.sink = .builder) (hc : it.cfg.OK) (hf : ∀ f ∈ it.files, f.WF) :
    it.WF := by
  apply LItem.WF_intro it hc hf
  intro s cfg fs h
  subst h
  have : s = .builder := hs
  subst this
  exact slicesFit_builder cfg hc.iv _

/-- What `readArchive_encode` asks of an entry, from the primitive conditions. -/
theorem toReadEntry_ok (it : LItem) (hw : it.WF) :
    (toReadEntry it).WF ∧ NoMarkers (toReadEntry it).extra ∧ ChunksFit (serEntry (toReadEntry it)) := by
  cases it with
  | file s cfg f => exact ⟨buildNormalW_WF s cfg hw.1 f hw.2, hw.2.extraNM, buildNormalW_fit s cfg hw.1 f hw.2⟩
  | block s cfg fs => exact ⟨buildSolidW_WF s cfg hw.1 fs, nofun, buildSolidW_fit s cfg hw.1 fs hw.2.2⟩

/-- The same of the entries `writeArchive items` serialises. -/
theorem written_entries_ok (items : List LItem) (hw : ∀ it ∈ items, it.WF) :
    (∀ e ∈ items.map toReadEntry, e.WF) ∧ (∀ e ∈ items.map toReadEntry, NoMarkers e.extra) ∧
      ChunksFit ((items.map toReadEntry).flatMap serEntry) := by
  refine ⟨List.forall_mem_map.mpr fun it hit => (toReadEntry_ok it (hw it hit)).1,
    List.forall_mem_map.mpr fun it hit => (toReadEntry_ok it (hw it hit)).2.1, fun c hc => ?_⟩
  obtain ⟨e, he, hce⟩ := List.mem_flatMap.mp hc
  obtain ⟨it, hit, rfl⟩ := List.mem_map.mp he
  exact (toReadEntry_ok it (hw it hit)).2.2 c hce

theorem openAll_items (items : List LItem) (hw : ∀ it ∈ items, it.WF) (cfgOf : Nat → StreamCfg)
    (hcfg : ∀ i (h : i < items.length), cfgOf i = items[i].cfg) :
    openAll cfgOf ((items.map toReadEntry).map ReadEntry.recut)
      = (items.flatMap LItem.files).map (fun f => .ok f.out) := by
  induction items generalizing cfgOf with
  | nil => rfl
  | cons it items ih =>
    have h0 : cfgOf 0 = it.cfg := hcfg 0 (by simp)
    have ih' := ih (fun x hx => hw x (by simp [hx])) (fun i => cfgOf (i + 1))
      (fun i hi => hcfg (i + 1) (Nat.succ_lt_succ hi))
    simp only [List.map_cons, openAll, List.flatMap_cons, List.map_append]
    rw [h0, openReadEntry_item it (hw it (by simp)), ih']

theorem selOfHeader_cfg (cfg : StreamCfg) (h : cfg.OK) : selOfHeader cfg.encryption cfg.cipherMode = cfg.sel := by
  unfold selOfHeader StreamCfg.encryption StreamCfg.cipherMode
  rcases h.cipher with h | h <;> rw [h] <;> cases cfg.sel <;> rfl

theorem cfgsOf_spec (items : List LItem) : ∀ i (h : i < items.length), cfgsOf items i = items[i].cfg := by
  intro i h
  simp [cfgsOf, h]

end Pna.Capstone
