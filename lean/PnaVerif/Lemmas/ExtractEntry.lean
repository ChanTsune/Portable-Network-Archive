import PnaVerif.Model.Cli.Extract
/-!
# `extract_entry` as two guards and a body

Every theorem about `extractEntry` first disposes of the two guards (`ensure_confined` on the parent of
the name, the existence test) and then looks at what is done.  `extractEntry_eq` says this once, with the
part after the guards folded into `body`, so that case splits on the guards do not carry it along.
-/
namespace Pna.Cli
open Pna.Fs

/-- `if let Some(parent) = path.parent() { create_dir_all(parent)? }` -/
def mkParent (cwd : Path) (path : Bytes) (fs : Fs) : Fs × Option XErr :=
  match parentP path with
  | some p => step (fs, none) (fun fs => fs.createDirAll cwd p)
  | none => (fs, none)

/-- the hard-link case past `create_dir_all(parent)`: the two checks on the source, then the link -/
def hardTail (ow : Bool) (cwd : Path) (outDir : Bytes) (e : XEntry) (l : Bool) (fs1 : Fs) : Fs × Option XErr :=
  let path := joinP outDir e.name
  let source := joinP ((parentP e.name).getD []) e.content
  if !confined fs1 cwd outDir ((parentP source).getD []) then (fs1, some .outside)
  else if noFileName source then (fs1, some .invalidInput)
  else
    step (step (fs1, none) (fun fs => if ow && (fs.existsP cwd path || l) then fs.remove cwd path else .ok fs))
      (fun fs => fs.hardLink cwd (joinP outDir source) path)

/-- `extract_entry` past its two guards: `r` is the state after `create_dir_all(parent)`, `l` the link
    test made on the initial state -/
def body (ow : Bool) (cwd : Path) (outDir : Bytes) (e : XEntry) (l : Bool) (r : Fs × Option XErr) :
    Fs × Option XErr :=
  let path := joinP outDir e.name
  match e.kind with
  | 0 => step (step r (fun fs => if l then fs.remove cwd path else .ok fs)) (fun fs => fs.createFile cwd path e.content)
  | 1 => step (step r (fun fs => if l then fs.remove cwd path else .ok fs)) (fun fs => fs.createDirAll cwd path)
  | 2 => step (step r (fun fs => if ow && (fs.existsP cwd path || l) then fs.remove cwd path else .ok fs))
      (fun fs => fs.symlink cwd e.content path)
  | _ =>
    match r with
    | (fs1, some x) => (fs1, some x)
    | (fs1, none) => hardTail ow cwd outDir e l fs1

variable {ow : Bool} {cwd : Path} {outDir : Bytes} {fs fs2 : Fs} {e : XEntry}

theorem extractEntry_eq :
    extractEntry ow cwd outDir fs e =
      if !confined fs cwd outDir ((parentP e.name).getD []) then (fs, some .outside)
      else if (fs.existsP cwd (joinP outDir e.name) || isLinkAt fs cwd (joinP outDir e.name)) && !ow then
        (fs, some .alreadyExists)
      else body ow cwd outDir e (isLinkAt fs cwd (joinP outDir e.name)) (mkParent cwd (joinP outDir e.name) fs) := rfl

/-- to show `P` of the result: `P` of a refusal, and `P` of `body` under the two passed guards -/
theorem extractEntry_state (P : Fs × Option XErr → Prop) (h0 : ∀ x, P (fs, some x))
    (h : confined fs cwd outDir ((parentP e.name).getD []) = true →
      ((fs.existsP cwd (joinP outDir e.name) || isLinkAt fs cwd (joinP outDir e.name)) && !ow) = false →
      P (body ow cwd outDir e (isLinkAt fs cwd (joinP outDir e.name)) (mkParent cwd (joinP outDir e.name) fs))) :
    P (extractEntry ow cwd outDir fs e) := by
  rw [extractEntry_eq]
  split
  · exact h0 _
  · rename_i hc
    split
    · exact h0 _
    · rename_i hx; exact h (by simpa using hc) (by simpa using hx)

theorem extractEntry_ok (h : extractEntry ow cwd outDir fs e = (fs2, none)) :
    confined fs cwd outDir ((parentP e.name).getD []) = true ∧
    ((fs.existsP cwd (joinP outDir e.name) || isLinkAt fs cwd (joinP outDir e.name)) && !ow) = false ∧
    body ow cwd outDir e (isLinkAt fs cwd (joinP outDir e.name)) (mkParent cwd (joinP outDir e.name) fs) = (fs2, none) := by
  rw [extractEntry_eq] at h
  split at h
  · cases h
  · rename_i hc
    split at h
    · cases h
    · rename_i hx; exact ⟨by simpa using hc, by simpa using hx, h⟩

theorem extractEntry_pass (hc : confined fs cwd outDir ((parentP e.name).getD []) = true)
    (hx : fs.existsP cwd (joinP outDir e.name) = false) (hl : isLinkAt fs cwd (joinP outDir e.name) = false) :
    extractEntry ow cwd outDir fs e = body ow cwd outDir e false (mkParent cwd (joinP outDir e.name) fs) := by
  rw [extractEntry_eq, hc, hx, hl]; rfl

theorem step_ok {fs fs' : Fs} (f : Fs → Except FsErr Fs) (h : f fs = .ok fs') : step (fs, none) f = (fs', none) := by
  simp only [step, h]

theorem step_id (r : Fs × Option XErr) : step r (fun fs => .ok fs) = r := by
  obtain ⟨fs, x⟩ := r
  cases x <;> rfl

theorem step_none {r : Fs × Option XErr} {f : Fs → Except FsErr Fs} (h : (step r f).2 = none) :
    r.2 = none ∧ f r.1 = .ok (step r f).1 := by
  obtain ⟨a, x⟩ := r
  cases x with
  | some e => cases h
  | none => cases hf : f a <;> simp [step, hf] at h ⊢

theorem step_rel (R : Fs → Fs → Prop) (hrefl : ∀ a, R a a) (r : Fs × Option XErr) (f : Fs → Except FsErr Fs)
    (hf : r.2 = none → ∀ b, f r.1 = .ok b → R r.1 b) : R r.1 (step r f).1 := by
  obtain ⟨a, x⟩ := r
  cases x with
  | some e => exact hrefl a
  | none =>
    cases h : f a with
    | error e => simp only [step, h]; exact hrefl a
    | ok b => simp only [step, h]; exact hf rfl b h

theorem mkParent_ok {cwd : Path} {path par : Bytes} {fs fs1 : Fs} (hp : parentP path = some par)
    (h : fs.createDirAll cwd par = .ok fs1) : mkParent cwd path fs = (fs1, none) := by
  simp only [mkParent, hp, step, h]

theorem mkParent_error {cwd : Path} {path par : Bytes} {fs : Fs} {e : FsErr} (hp : parentP path = some par)
    (h : fs.createDirAll cwd par = .error e) : mkParent cwd path fs = (fs, some (.fs e)) := by
  simp only [mkParent, hp, step, h]

theorem body_error (ow : Bool) (cwd : Path) (outDir : Bytes) (e : XEntry) (l : Bool) (fs : Fs) (x : XErr) :
    body ow cwd outDir e l (fs, some x) = (fs, some x) := by
  unfold body; split <;> rfl

/-- how a fact about one entry reaches the whole loop of `run_extract_archive_reader`, whatever its order and
    its handling of errors (with `Keeps`: `C09C.extractAll_confined_partial`) -/
theorem extractAllWith_rel (R : Fs → Fs → Prop) (hrefl : ∀ a, R a a) (htrans : ∀ {a b c}, R a b → R b c → R a c)
    {one : Fs → XEntry → Fs × Option XErr} {es : List XEntry} (h1 : ∀ fs, ∀ e ∈ es, R fs (one fs e).1) (fs : Fs) :
    R fs (extractAllWith one fs es).1 := by
  have scan : ∀ (l : List XEntry), (∀ e ∈ l, e ∈ es) → ∀ fs err, R fs (extractAllWith.scan one fs err l).1 := by
    intro l
    induction l with
    | nil => intro _ fs _; exact hrefl fs
    | cons e rest ih =>
      intro hl fs err
      have h := h1 fs e (hl e (by simp))
      have hr : ∀ x ∈ rest, x ∈ es := fun x hx => hl x (by simp [hx])
      unfold extractAllWith.scan
      split
      all_goals
        rename_i he
        rw [he] at h
        exact htrans h (ih hr _ _)
  have links : ∀ (l : List XEntry), (∀ e ∈ l, e ∈ es) → ∀ fs, R fs (extractAllWith.links one fs l).1 := by
    intro l
    induction l with
    | nil => intro _ fs; exact hrefl fs
    | cons e rest ih =>
      intro hl fs
      have h := h1 fs e (hl e (by simp))
      unfold extractAllWith.links
      split
      · rename_i he
        rw [he] at h
        exact htrans h (ih (fun x hx => hl x (by simp [hx])) _)
      · rename_i he
        rw [he] at h
        exact h
  have hs := scan (es.filter (·.kind ≠ 3)) (fun e he => (List.mem_filter.1 he).1) fs none
  unfold extractAllWith
  split
  · rename_i he
    rw [he] at hs
    exact hs
  · rename_i he
    rw [he] at hs
    exact htrans hs (links _ (fun e he => (List.mem_filter.1 he).1) _)

theorem extractAll_singleton (h : e.kind ≠ 3) :
    extractAll ow cwd outDir fs [e] = extractEntry ow cwd outDir fs e := by
  have h1 : [e].filter (·.kind ≠ 3) = [e] := by simp [h]
  have h2 : [e].filter (·.kind = 3) = [] := by simp [h]
  unfold extractAll extractAllWith
  rw [h1, h2]
  unfold extractAllWith.scan
  rcases extractEntry ow cwd outDir fs e with ⟨fs', _ | x⟩ <;> rfl

end Pna.Cli
