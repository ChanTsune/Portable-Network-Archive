import PnaVerif.Model.Cli.Update
import PnaVerif.Lemmas.ListFacts
/-
  The entry-list model of `pna append`, `pna experimental update` and `delete`
  (`PnaVerif/Model/Cli/Update.lean`; update.rs after the `fix:` commits `b4af50a4`, `45540250`:
  the walker's result is de-duplicated by name, later entries of a re-created name are left out).

  Everything rests on `updateOp_eq`, the result of `update` in closed form, for every archive and
  every walker result (names may repeat in both): the archived entries whose name is not
  re-created, in place (`keptPart`); then (`newPart`) the targets of the re-created names, in the
  order of their first archived entries, and the targets with new names, in walker order.  It is
  the invariant `Scanned` of the scan, carried one entry at a time (`Scanned.step`).  A name is
  *re-created* when it is a target and its FIRST archived entry is neither excluded nor filtered
  out (`recreated`).  `update_withName` is the closed form read under one name; two results are
  compared name by name (`perm_of_withName_eq`).
-/
namespace Pna.Cli

def names (l : List UEntry) : List Bytes := l.map (·.name)

def withName (n : Bytes) (l : List UEntry) : List UEntry := l.filter (fun e => e.name == n)

/-- "this archived entry is to be re-created": not excluded and the time filter asks for it -/
def wants (excl : Bytes → Bool) (need : UEntry → Bool) (e : UEntry) : Bool := !excl e.name && need e

theorem append_spec (a ts : List UEntry) :
    appendOp a ts = a ++ ts ∧ (appendOp a ts).take a.length = a ∧ (appendOp a ts).drop a.length = ts := by
  simp [appendOp]

theorem delete_spec (sel : Bytes → Bool) (a : List UEntry) :
    deleteOp sel a = a.filter (fun e => !sel e.name) ∧ ∀ e ∈ deleteOp sel a, e ∈ a ∧ sel e.name = false := by
  refine ⟨rfl, ?_⟩
  intro e he
  simpa [deleteOp, List.mem_filter] using he

@[simp] theorem names_nil : names [] = [] := rfl
@[simp] theorem names_cons (e : UEntry) (l : List UEntry) : names (e :: l) = e.name :: names l := rfl
@[simp] theorem names_append (l₁ l₂ : List UEntry) : names (l₁ ++ l₂) = names l₁ ++ names l₂ := by
  simp [names]

theorem mem_names_of_mem {e : UEntry} {l : List UEntry} (h : e ∈ l) : e.name ∈ names l :=
  List.mem_map_of_mem h

theorem mem_names_iff {n : Bytes} {l : List UEntry} : n ∈ names l ↔ ∃ x ∈ l, x.name = n := by
  simp [names]

theorem names_filter_ne_sublist (m : Bytes) (p : List UEntry) :
    (names (p.filter (·.name != m))).Sublist (names p) :=
  List.Sublist.map _ List.filter_sublist

@[simp] theorem withName_nil (n : Bytes) : withName n [] = [] := rfl

@[simp] theorem withName_append (n : Bytes) (l₁ l₂ : List UEntry) :
    withName n (l₁ ++ l₂) = withName n l₁ ++ withName n l₂ := by
  simp [withName]

theorem withName_filter (n : Bytes) (p : UEntry → Bool) (l : List UEntry) :
    withName n (l.filter p) = (withName n l).filter p := by
  simp only [withName, List.filter_filter, Bool.and_comm]

theorem withName_eq_nil {n : Bytes} {l : List UEntry} : withName n l = [] ↔ n ∉ names l := by
  simp [withName, List.filter_eq_nil_iff, names]

theorem count_names_eq (n : Bytes) (l : List UEntry) : (withName n l).length = (names l).count n := by
  rw [withName, ← List.countP_eq_length_filter, List.count_eq_countP, names, List.countP_map]
  rfl

theorem find_name_eq_none {n : Bytes} {l : List UEntry} :
    l.find? (·.name == n) = none ↔ n ∉ names l := by
  simp [mem_names_iff]

theorem find_name_some {n : Bytes} {l : List UEntry} {t : UEntry}
    (h : l.find? (·.name == n) = some t) : t ∈ l ∧ t.name = n :=
  ⟨List.mem_of_find?_eq_some h, by simpa using List.find?_some h⟩

theorem mem_names_of_find {n : Bytes} {l : List UEntry} {t : UEntry}
    (h : l.find? (·.name == n) = some t) : n ∈ names l :=
  (find_name_some h).2 ▸ mem_names_of_mem (find_name_some h).1

theorem withName_of_nodup {l : List UEntry} (hl : (names l).Nodup) (n : Bytes) :
    withName n l = (l.find? (·.name == n)).toList := by
  induction l with
  | nil => rfl
  | cons x l ih =>
    rw [names_cons, List.nodup_cons] at hl
    by_cases hx : x.name = n
    · have : withName n l = [] := withName_eq_nil.2 (hx ▸ hl.1)
      simp [withName, hx] at this ⊢
      exact this
    · rw [List.find?_cons_of_neg (by simpa using hx), ← ih hl.2, withName,
        List.filter_cons_of_neg (by simpa using hx)]
      rfl

theorem find_of_nodup {l : List UEntry} (hl : (names l).Nodup) {t : UEntry} (h : t ∈ l) :
    l.find? (·.name == t.name) = some t := by
  have : t ∈ withName t.name l := List.mem_filter.2 ⟨h, by simp⟩
  rwa [withName_of_nodup hl, Option.mem_toList] at this

theorem perm_of_withName_eq {l₁ l₂ : List UEntry} (h : ∀ n, withName n l₁ = withName n l₂) :
    l₁.Perm l₂ := by
  rw [List.perm_iff_count]
  intro x
  have hc : ∀ l : List UEntry, (withName x.name l).count x = l.count x := by
    intro l; unfold withName; exact List.count_filter (by simp)
  rw [← hc l₁, ← hc l₂, h]

theorem eq_of_withName_eq : ∀ {l₁ l₂ : List UEntry}, (∀ n, withName n l₁ = withName n l₂) →
    names l₁ = names l₂ → l₁ = l₂
  | [], [], _, _ => rfl
  | [], _ :: _, _, hn => by simp at hn
  | _ :: _, [], _, hn => by simp at hn
  | x :: l₁, y :: l₂, h, hn => by
    rw [names_cons, names_cons, List.cons.injEq] at hn
    have hx := h x.name
    simp only [withName, List.filter_cons, beq_self_eq_true, hn.1, if_true, List.cons.injEq] at hx
    obtain rfl : x = y := hx.1
    congr 1
    apply eq_of_withName_eq _ hn.2
    intro n
    have := h n
    simp only [withName, List.filter_cons] at this ⊢
    split at this
    · exact (List.cons.inj this).2
    · exact this

/-- `dedupGo` without its accumulator -/
theorem dedupGo_eq_filter (ts : List UEntry) : ∀ seen,
    dedupGo seen ts = (dedupNames ts).filter (fun t => !seen.contains t.name) := by
  induction ts with
  | nil => intro _; rfl
  | cons t ts ih =>
    intro seen
    rw [show dedupNames (t :: ts) = t :: dedupGo [t.name] ts from rfl, dedupGo, ih [t.name], List.filter_cons,
      List.filter_filter]
    split
    · rename_i hs
      rw [if_neg (by simpa using hs), ih seen]
      apply List.filter_congr
      intro x _
      by_cases hx : x.name = t.name <;> simp_all
    · rename_i hs
      rw [if_pos (by simpa using hs), ih (t.name :: seen)]
      congr 1
      apply List.filter_congr
      intro x _
      simp [Bool.and_comm]

theorem dedupNames_cons (t : UEntry) (ts : List UEntry) :
    dedupNames (t :: ts) = t :: (dedupNames ts).filter (·.name != t.name) := by
  show t :: dedupGo [t.name] ts = _
  rw [dedupGo_eq_filter]
  congr 1
  apply List.filter_congr
  intro x _
  by_cases hx : x.name = t.name <;> simp [hx]

theorem dedupNames_append (l₁ l₂ : List UEntry) :
    dedupNames (l₁ ++ l₂) =
      dedupNames l₁ ++ (dedupNames l₂).filter (fun t => !(names l₁).contains t.name) := by
  induction l₁ with
  | nil => exact (List.filter_eq_self.2 fun _ _ => rfl).symm
  | cons x l ih =>
    rw [List.cons_append, dedupNames_cons, ih, dedupNames_cons, List.filter_append,
      List.filter_filter, List.cons_append]
    congr 2
    apply List.filter_congr
    intro t _
    by_cases ht : t.name = x.name <;> simp [ht]

theorem find_dedupNames (n : Bytes) (ts : List UEntry) :
    (dedupNames ts).find? (·.name == n) = ts.find? (·.name == n) := by
  induction ts with
  | nil => rfl
  | cons t ts ih =>
    rw [dedupNames_cons]
    by_cases ht : t.name = n
    · simp [ht]
    · rw [List.find?_cons_of_neg (by simpa using ht), List.find?_cons_of_neg (by simpa using ht),
        find?_filter_key (fun x hx => by simp [hx, Ne.symm ht]), ih]

theorem dedupNames_sublist (ts : List UEntry) : (dedupNames ts).Sublist ts := by
  induction ts with
  | nil => exact .slnil
  | cons t ts ih => rw [dedupNames_cons]; exact (List.filter_sublist.trans ih).cons_cons t

theorem dedupNames_nodup (ts : List UEntry) : (names (dedupNames ts)).Nodup := by
  induction ts with
  | nil => exact .nil
  | cons t ts ih =>
    rw [dedupNames_cons, names_cons, List.nodup_cons]
    refine ⟨?_, ih.sublist (names_filter_ne_sublist _ _)⟩
    simp [mem_names_iff]

theorem dedupNames_of_nodup (ts : List UEntry) (h : (names ts).Nodup) : dedupNames ts = ts := by
  induction ts with
  | nil => rfl
  | cons t ts ih =>
    rw [names_cons, List.nodup_cons] at h
    rw [dedupNames_cons, ih h.2, List.filter_eq_self.2]
    intro x hx
    have : x.name ≠ t.name := fun hxt => h.1 (hxt ▸ mem_names_of_mem hx)
    simpa using this

theorem find_of_mem_dedupNames {t : UEntry} {ts : List UEntry} (h : t ∈ dedupNames ts) :
    ts.find? (·.name == t.name) = some t := by
  rw [← find_dedupNames, find_of_nodup (dedupNames_nodup ts) h]

theorem withName_dedupNames (n : Bytes) (l : List UEntry) :
    withName n (dedupNames l) = (l.find? (·.name == n)).toList := by
  rw [withName_of_nodup (dedupNames_nodup l), find_dedupNames]

/-- "the name `n` is re-created" in the sense of the file head -/
def recreated (excl : Bytes → Bool) (need : UEntry → Bool) (a ts : List UEntry) (n : Bytes) : Bool :=
  (names ts).contains n && (a.find? (·.name == n)).any (wants excl need)

/-- what an archived entry is replaced by when it is the first of its name -/
def target (excl : Bytes → Bool) (need : UEntry → Bool) (ts : List UEntry) (e : UEntry) :
    Option UEntry :=
  if wants excl need e then ts.find? (·.name == e.name) else none

/-- first half of the closed form `updateOp_eq` (file head): the archived entries that stay, in place -/
def keptPart (excl : Bytes → Bool) (need : UEntry → Bool) (a ts : List UEntry) : List UEntry :=
  a.filter (fun e => !recreated excl need a ts e.name)

/-- second half of `updateOp_eq` (file head): targets of re-created names, then targets with new names -/
def newPart (excl : Bytes → Bool) (need : UEntry → Bool) (a ts : List UEntry) : List UEntry :=
  (dedupNames a).filterMap (target excl need ts) ++
    (dedupNames ts).filter (fun t => !(names a).contains t.name)

/-- the state of the scan after the entries `a` -/
def Scanned (excl : Bytes → Bool) (need : UEntry → Bool) (ts a : List UEntry) (s : UState) : Prop :=
  s.kept = keptPart excl need a ts ∧
  s.replaced = (dedupNames a).filterMap (target excl need ts) ∧
  s.pending = (dedupNames ts).filter (fun t => !(names a).contains t.name) ∧
  ∀ n, n ∈ s.done ↔ recreated excl need a ts n = true

section
variable {excl : Bytes → Bool} {need : UEntry → Bool}

theorem recreated_iff {a ts : List UEntry} {n : Bytes} :
    recreated excl need a ts n = true ↔
      n ∈ names ts ∧ ∃ e, a.find? (·.name == n) = some e ∧ excl e.name = false ∧ need e = true := by
  unfold recreated wants
  cases a.find? (·.name == n) <;> simp

/-- only the first entry of a name counts -/
theorem recreated_append (l₁ l₂ ts : List UEntry) (n : Bytes) :
    recreated excl need (l₁ ++ l₂) ts n =
      if n ∈ names l₁ then recreated excl need l₁ ts n else recreated excl need l₂ ts n := by
  unfold recreated
  rw [List.find?_append]
  cases h : l₁.find? (·.name == n) with
  | none => rw [if_neg (find_name_eq_none.1 h)]; rfl
  | some x => rw [if_pos (mem_names_of_find h)]; rfl

/-- `updateStep` as one equation per field: `Scanned.step` rewrites with these and never unfolds
    the cascade -/
theorem updateStep_fields (s : UState) (e : UEntry) :
    (updateStep excl need s e).kept = s.kept ++
      (if s.done.contains e.name ||
        ((s.pending.find? (·.name == e.name)).isSome && wants excl need e) then [] else [e]) ∧
    (updateStep excl need s e).replaced = s.replaced ++
      (if s.done.contains e.name || !wants excl need e then []
       else (s.pending.find? (·.name == e.name)).toList) ∧
    (updateStep excl need s e).pending =
      (if s.done.contains e.name then s.pending else s.pending.filter (·.name != e.name)) ∧
    (updateStep excl need s e).done =
      (if !s.done.contains e.name && (s.pending.find? (·.name == e.name)).isSome
        && wants excl need e then e.name :: s.done else s.done) := by
  unfold updateStep wants
  by_cases hd : e.name ∈ s.done
  · simp [hd]
  · cases hf : s.pending.find? (·.name == e.name) with
    | none =>
      have : s.pending.filter (·.name != e.name) = s.pending := by
        rw [List.filter_eq_self]
        intro x hx
        simpa using List.find?_eq_none.1 hf x hx
      simp [hd, this]
    | some t => by_cases hw : (!excl e.name && need e) = true <;> simp [hd, hw]

theorem Scanned.step {ts a : List UEntry} {s : UState}
    (h : Scanned excl need ts a s) (e : UEntry) :
    Scanned excl need ts (a ++ [e]) (updateStep excl need s e) := by
  obtain ⟨hk, hr, hp, hd⟩ := h
  obtain ⟨fk, fr, fp, fd⟩ := updateStep_fields s e
  -- `hk hr hp hd`: the four parts of `Scanned` (kept, replaced, pending, done) at `a`;
  -- `fk fr fp fd`: the four equations of `updateStep_fields`, same order
  have hdc : s.done.contains e.name = recreated excl need a ts e.name := by
    rw [Bool.eq_iff_iff, List.contains_iff_mem]; exact hd _
  -- the pending target of `e.name`: none left once the name has been scanned
  have hfind : s.pending.find? (·.name == e.name) =
      if e.name ∈ names a then none else ts.find? (·.name == e.name) := by
    rw [hp]
    by_cases hm : e.name ∈ names a
    · rw [if_pos hm, List.find?_filter, List.find?_eq_none]
      intro x _ hx
      simp only [decide_eq_true_eq, beq_iff_eq] at hx
      simp [hx.2, hm] at hx
    · rw [if_neg hm, ← find_dedupNames e.name ts]
      exact find?_filter_key (fun x hx => by simp [hx, hm]) _
  have hfilter : s.pending.filter (·.name != e.name) =
      (dedupNames ts).filter (fun t => !(names (a ++ [e])).contains t.name) := by
    rw [hp, List.filter_filter]
    apply List.filter_congr
    intro x _
    by_cases hx : x.name = e.name <;> simp [hx]
  have hsome : (ts.find? (·.name == e.name)).isSome = (names ts).contains e.name := by
    rw [Bool.eq_iff_iff, List.find?_isSome, List.contains_iff_mem, mem_names_iff]; simp
  have hnew : ∀ n, n ∉ names a → recreated excl need a ts n = false := fun n hm => by
    rw [recreated, find_name_eq_none.2 hm]; simp
  have hlast : recreated excl need [e] ts e.name = ((names ts).contains e.name && wants excl need e) := by
    simp [recreated]
  -- a name scanned before (`e.name ∈ names a`) is decided by `recreated … a` (`hdc`), a first
  -- occurrence by `hlast`
  refine ⟨?_, ?_, ?_, ?_⟩
  · -- kept
    have hc : a.filter (fun x => !recreated excl need (a ++ [e]) ts x.name) = keptPart excl need a ts :=
      List.filter_congr fun x hx => by rw [recreated_append, if_pos (mem_names_of_mem hx)]
    rw [fk, hk, hdc, hfind]
    unfold keptPart at hc ⊢
    rw [List.filter_append, hc, List.filter_cons, recreated_append, hlast]
    congr 1
    by_cases hm : e.name ∈ names a
    · cases recreated excl need a ts e.name <;> simp [hm]
    · cases hw : wants excl need e <;> by_cases h1 : e.name ∈ names ts <;>
        simp [hm, hnew _ hm, hsome, h1]
  · -- replaced
    have he : dedupNames [e] = [e] := rfl
    rw [fr, hr, hdc, hfind, dedupNames_append, List.filterMap_append, he]
    congr 1
    by_cases hm : e.name ∈ names a
    · simp [hm]
    · cases hw : wants excl need e <;> cases hf : ts.find? (·.name == e.name) <;>
        simp [hm, hnew _ hm, target, hw, hf]
  · -- pending
    rw [fp, ← hfilter]
    split
    · rename_i hin
      rw [hdc] at hin
      have hm : e.name ∈ names a := Classical.byContradiction fun hm => by
        rw [hnew _ hm] at hin; cases hin
      symm
      rw [List.filter_eq_self, hp]
      intro x hx
      have hxa : x.name ∉ names a := by simpa using (List.mem_filter.1 hx).2
      have : x.name ≠ e.name := fun hxe => hxa (hxe ▸ hm)
      simpa using this
    · rfl
  · -- done
    intro n
    rw [fd, hdc, hfind, recreated_append]
    by_cases hn : n = e.name
    · subst hn
      by_cases hm : e.name ∈ names a
      · simp [hm, hd]
      · have hnd : e.name ∉ s.done := fun h => by rw [hd, hnew _ hm] at h; cases h
        simp only [hm, hnew _ hm, hsome, hlast, if_false]
        split <;> rename_i hc <;> simpa [hnd] using hc
    · have h1 : recreated excl need [e] ts n = false := by simp [recreated, Ne.symm hn]
      have h2 : ∀ (c : Prop) [Decidable c],
          (n ∈ if c then e.name :: s.done else s.done) ↔ n ∈ s.done := fun c _ => by
        split <;> simp [hn]
      rw [h2, hd, h1]
      by_cases hna : n ∈ names a <;> simp [hna, hnew]

theorem Scanned.foldl {ts : List UEntry}
    (a : List UEntry) : ∀ {pre : List UEntry} {s : UState}, Scanned excl need ts pre s →
      Scanned excl need ts (pre ++ a) (a.foldl (updateStep excl need) s) := by
  induction a with
  | nil => intro pre s h; simpa using h
  | cons e a ih =>
    intro pre s h
    rw [List.foldl_cons, show pre ++ e :: a = (pre ++ [e]) ++ a by simp]
    exact ih (h.step e)

theorem updateOp_eq (a ts : List UEntry) :
    updateOp excl need a ts = keptPart excl need a ts ++ newPart excl need a ts := by
  have h0 : Scanned excl need ts [] { pending := dedupNames ts } :=
    ⟨rfl, rfl, (List.filter_eq_self.2 fun _ _ => rfl).symm, fun n => by simp [recreated]⟩
  obtain ⟨hk, hr, hp, _⟩ := h0.foldl a
  rw [List.nil_append] at hk hr hp
  rw [updateOp, hk, hr, hp, List.append_assoc]
  rfl

theorem target_name {ts : List UEntry} {e t : UEntry}
    (h : target excl need ts e = some t) : ts.find? (·.name == e.name) = some t := by
  unfold target at h
  split at h
  · exact h
  · cases h

theorem withName_filterMap_target (ts l : List UEntry) (n : Bytes) :
    withName n (l.filterMap (target excl need ts)) = (withName n l).filterMap (target excl need ts) := by
  induction l with
  | nil => rfl
  | cons e l ih =>
    cases h : target excl need ts e with
    | none => by_cases he : e.name = n <;> simp_all [withName]
    | some t =>
      have := (find_name_some (target_name h)).2
      by_cases he : e.name = n <;> simp_all [withName]

theorem withName_keptPart (a ts : List UEntry) (n : Bytes) :
    withName n (keptPart excl need a ts) = if recreated excl need a ts n then [] else withName n a := by
  rw [withName, keptPart, List.filter_filter]
  split
  · rw [List.filter_eq_nil_iff]
    intro x _
    simp_all
  · apply List.filter_congr
    intro x _
    by_cases hx : x.name = n <;> simp_all

theorem withName_newPart (a ts : List UEntry) (n : Bytes) :
    withName n (newPart excl need a ts) =
      if recreated excl need a ts n ∨ n ∉ names a then (ts.find? (·.name == n)).toList else [] := by
  rw [newPart, withName_append, withName_filterMap_target, withName_dedupNames, withName_filter,
    withName_dedupNames]
  unfold recreated
  cases hfa : a.find? (·.name == n) with
  | none =>
    have hna := find_name_eq_none.1 hfa
    cases hft : ts.find? (·.name == n) with
    | none => simp [hna]
    | some t => simp [hna, (find_name_some hft).2]
  | some e =>
    have hna := mem_names_of_find hfa
    cases hft : ts.find? (·.name == n) with
    | none => simp [hna, target, (find_name_some hfa).2, hft, find_name_eq_none.1 hft]
    | some t =>
      cases hw : wants excl need e <;>
        simp [hna, mem_names_of_find hft, target, (find_name_some hfa).2, (find_name_some hft).2, hft, hw]

/-- what `Props/C11` and the statements below are proved from -/
theorem update_withName (a ts : List UEntry) (n : Bytes) :
    withName n (updateOp excl need a ts) =
      if recreated excl need a ts n then (ts.find? (·.name == n)).toList
      else withName n a ++ if n ∈ names a then [] else (ts.find? (·.name == n)).toList := by
  rw [updateOp_eq, withName_append, withName_keptPart, withName_newPart]
  by_cases hr : recreated excl need a ts n = true
  · simp [hr]
  · by_cases hn : n ∈ names a <;> simp [hr, hn]

theorem mem_newPart {a ts : List UEntry} {t : UEntry}
    (h : t ∈ newPart excl need a ts) : ts.find? (·.name == t.name) = some t := by
  rcases List.mem_append.1 h with h | h
  · obtain ⟨e, _, he⟩ := List.mem_filterMap.1 h
    have := target_name he
    rwa [← (find_name_some this).2] at this
  · exact find_of_mem_dedupNames (List.mem_filter.1 h).1

theorem mem_names_update (a ts : List UEntry)
    (n : Bytes) : n ∈ names (updateOp excl need a ts) ↔ n ∈ names a ∨ n ∈ names ts := by
  have hw : ∀ l, n ∈ names l ↔ withName n l ≠ [] := fun l => by
    rw [Ne, withName_eq_nil, Classical.not_not]
  have hf : (ts.find? (·.name == n)).toList ≠ [] ↔ n ∈ names ts := by
    rw [Ne, Option.toList_eq_nil_iff, find_name_eq_none, Classical.not_not]
  rw [hw, update_withName]
  split
  · rename_i h
    simp [hf, (recreated_iff.1 h).1]
  · by_cases hn : n ∈ names a
    · simp [hn, (hw a).1 hn]
    · simp [hn, withName_eq_nil.2 hn, hf]

theorem update_nodup (a ts : List UEntry)
    (ha : (names a).Nodup) : (names (updateOp excl need a ts)).Nodup := by
  rw [List.nodup_iff_count]
  intro n
  have h2 := List.nodup_iff_count.1 ha n
  rw [← count_names_eq] at h2 ⊢
  rw [update_withName]
  split
  · exact Option.length_toList_le
  · by_cases hn : n ∈ names a
    · rw [if_pos hn, List.append_nil]; exact h2
    · rw [withName_eq_nil.2 hn, if_neg hn]
      exact Option.length_toList_le

/-- what `update` does to an archive `K ++ Q` that is settled: no name of `K` is re-created, `Q`
    holds first targets under names of its own, once each, and every target name is there — `K` is
    copied, the entries of `Q` that are to be re-created move behind the others -/
theorem updateOp_settled (K Q ts : List UEntry)
    (hK : ∀ k ∈ K, recreated excl need K ts k.name = false)
    (hQ : ∀ q ∈ Q, ts.find? (·.name == q.name) = some q) (hnd : (names Q).Nodup)
    (hdj : ∀ q ∈ Q, q.name ∉ names K) (hcov : ∀ n ∈ names ts, n ∈ names (K ++ Q)) :
    updateOp excl need (K ++ Q) ts =
      K ++ Q.filter (fun q => !wants excl need q) ++ Q.filter (wants excl need) := by
  have hrQ : ∀ q ∈ Q, recreated excl need (K ++ Q) ts q.name = wants excl need q := fun q hq => by
    rw [recreated_append, if_neg (hdj q hq), recreated, find_of_nodup hnd hq]
    simp [mem_names_of_find (hQ q hq)]
  have hkK : K.filter (fun e => !recreated excl need (K ++ Q) ts e.name) = K :=
    List.filter_eq_self.2 fun k hk => by
      rw [recreated_append, if_pos (mem_names_of_mem hk), hK k hk]; rfl
  have hkQ : Q.filter (fun e => !recreated excl need (K ++ Q) ts e.name) =
      Q.filter (fun q => !wants excl need q) := List.filter_congr fun q hq => by rw [hrQ q hq]
  have h2 : (dedupNames K).filterMap (target excl need ts) = [] := by
    rw [List.filterMap_eq_nil_iff]
    intro k hk
    have hkK := (dedupNames_sublist K).subset hk
    unfold target
    split
    · rename_i hw
      cases hft : ts.find? (·.name == k.name) with
      | none => rfl
      | some t =>
        have := hK k hkK
        rw [recreated, find_of_mem_dedupNames hk] at this
        simp [mem_names_of_find hft, hw] at this
    · rfl
  have h3 : ∀ l : List UEntry, (∀ q ∈ l, ts.find? (·.name == q.name) = some q) →
      l.filterMap (target excl need ts) = l.filter (wants excl need) := by
    intro l hl
    induction l with
    | nil => rfl
    | cons q l ih =>
      have := hl q List.mem_cons_self
      cases hw : wants excl need q <;>
        simp [target, hw, this, ih fun x hx => hl x (List.mem_cons_of_mem _ hx)]
  have h4 : (dedupNames ts).filter (fun t => !(names (K ++ Q)).contains t.name) = [] :=
    List.filter_eq_nil_iff.2 fun t ht => by
      rw [List.contains_iff_mem.2 (hcov _ (mem_names_of_mem ((dedupNames_sublist ts).subset ht)))]
      decide
  have h5 : Q.filter (fun t => !(names K).contains t.name) = Q :=
    List.filter_eq_self.2 fun q hq => by simpa using hdj q hq
  rw [updateOp_eq, keptPart, List.filter_append, hkK, hkQ, newPart, h4, dedupNames_append,
    List.filterMap_append, h2, dedupNames_of_nodup Q hnd, h5, h3 Q hQ]
  simp

/-- the result of `update` is settled: `updateOp_settled` with `K = keptPart`, `Q = newPart` -/
theorem update_twice_eq (a ts : List UEntry) :
    updateOp excl need (updateOp excl need a ts) ts =
      keptPart excl need a ts ++ (newPart excl need a ts).filter (fun q => !wants excl need q) ++
        (newPart excl need a ts).filter (wants excl need) := by
  rw [updateOp_eq a ts]
  apply updateOp_settled
  · -- hK
    intro k hk
    have hr : recreated excl need a ts k.name = false := by simpa using (List.mem_filter.1 hk).2
    -- under a name that is not re-created `K` holds what `a` holds: same first entry
    have hsame : recreated excl need (keptPart excl need a ts) ts k.name =
        recreated excl need a ts k.name := by
      rw [recreated, recreated, ← List.head?_filter, ← List.head?_filter]
      show (_ && (withName k.name (keptPart excl need a ts)).head?.any _) = _
      rw [withName_keptPart, hr]
      rfl
    exact hsame.trans hr
  · -- hQ
    exact fun q => mem_newPart
  · -- hnd
    rw [List.nodup_iff_count]
    intro n
    rw [← count_names_eq, withName_newPart]
    split
    · exact Option.length_toList_le
    · exact Nat.zero_le 1
  · -- hdj
    intro q hq
    have hm : q ∈ withName q.name (newPart excl need a ts) := List.mem_filter.2 ⟨hq, by simp⟩
    rw [withName_newPart] at hm
    rw [← withName_eq_nil, withName_keptPart]
    split at hm
    · rename_i h
      split
      · rfl
      · exact withName_eq_nil.2 (h.resolve_left ‹_›)
    · cases hm
  · -- hcov
    intro n hn
    rw [← updateOp_eq, mem_names_update]
    exact Or.inr hn

/-- the ORDER may change (the entries are the same, `C11.update_idempotent_entries`): `[1]` is
    re-created again and moves behind the excluded `[2]` -/
example : updateOp (fun n => n == [2]) (fun _ => true)
      (updateOp (fun n => n == [2]) (fun _ => true) [] [⟨[1], [10]⟩, ⟨[2], [20]⟩])
      [⟨[1], [10]⟩, ⟨[2], [20]⟩] = [⟨[2], [20]⟩, ⟨[1], [10]⟩] ∧
    updateOp (fun n => n == [2]) (fun _ => true) [] [⟨[1], [10]⟩, ⟨[2], [20]⟩] =
      [⟨[1], [10]⟩, ⟨[2], [20]⟩] := by decide

end

/-! update.rs before the two `fix:` commits (`updateOpLegacy`), the two inputs on which it violates
C11, and that its scan agrees with `updateStep`'s over an archive of unique names (for
`C11.legacy_agrees_on_unique_names`). -/

/-- the scan step before `b4af50a4`: no `done`, no memory of re-created names -/
def updateStepLegacy (excl : Bytes → Bool) (need : UEntry → Bool) (s : UState) (e : UEntry) : UState :=
  match s.pending.find? (·.name == e.name) with
  | some t =>
    let pending := s.pending.filter (·.name != e.name)
    if !excl e.name && need e then { s with replaced := s.replaced ++ [t], pending := pending }
    else { s with kept := s.kept ++ [e], pending := pending }
  | none => { s with kept := s.kept ++ [e] }

/-- `update` before both commits: the walker's result is used as it comes (no `dedupNames`) -/
def updateOpLegacy (excl : Bytes → Bool) (need : UEntry → Bool) (a targets : List UEntry) :
    List UEntry :=
  let s := a.foldl (updateStepLegacy excl need) { pending := targets }
  s.kept ++ s.replaced ++ s.pending

/-- create `[q:v1]`, append `[q:v2]`, update `[q:v3]` — the first entry is re-created, the second
    (stale `v2`) is carried over: two entries named `q` -/
theorem legacy_keeps_stale_duplicate :
    updateOpLegacy (fun _ => false) (fun _ => true)
        (appendOp [⟨[113], [1]⟩] [⟨[113], [2]⟩]) [⟨[113], [3]⟩] =
      [⟨[113], [2]⟩, ⟨[113], [3]⟩] ∧
    ((updateOpLegacy (fun _ => false) (fun _ => true)
        (appendOp [⟨[113], [1]⟩] [⟨[113], [2]⟩]) [⟨[113], [3]⟩]).filter
          (fun e => e.name == [113])).length = 2 := by decide

/-- `updateOp` on the same input: one entry named `q`, the current one -/
theorem repaired_drops_stale_duplicate :
    updateOp (fun _ => false) (fun _ => true)
        (appendOp [⟨[113], [1]⟩] [⟨[113], [2]⟩]) [⟨[113], [3]⟩] = [⟨[113], [3]⟩] := by decide

/-- update of `[z]` with the walker result `[f, f]` (overlapping arguments) adds `f` twice -/
theorem legacy_adds_target_twice :
    updateOpLegacy (fun _ => false) (fun _ => true) [⟨[122], [1]⟩] [⟨[102], [7]⟩, ⟨[102], [7]⟩] =
      [⟨[122], [1]⟩, ⟨[102], [7]⟩, ⟨[102], [7]⟩] ∧
    ((updateOpLegacy (fun _ => false) (fun _ => true) [⟨[122], [1]⟩]
        [⟨[102], [7]⟩, ⟨[102], [7]⟩]).filter (fun e => e.name == [102])).length = 2 := by decide

theorem repaired_adds_target_once :
    updateOp (fun _ => false) (fun _ => true) [⟨[122], [1]⟩] [⟨[102], [7]⟩, ⟨[102], [7]⟩] =
      [⟨[122], [1]⟩, ⟨[102], [7]⟩] := by decide

/-- as long as the entry's name has not been re-created the two scan steps agree, `done` aside; the
    second conjunct bounds `done` for the induction in `foldl_updateStepLegacy_eq` -/
theorem updateStepLegacy_eq (excl : Bytes → Bool) (need : UEntry → Bool) (s : UState) (e : UEntry)
    (hd : e.name ∉ s.done) :
    updateStepLegacy excl need { s with done := [] } e = { updateStep excl need s e with done := [] } ∧
      ∀ m ∈ (updateStep excl need s e).done, m = e.name ∨ m ∈ s.done := by
  unfold updateStep updateStepLegacy
  rw [if_neg (by simpa using hd)]
  cases s.pending.find? (·.name == e.name) with
  | none => exact ⟨rfl, fun m hm => Or.inr hm⟩
  | some t =>
    simp only
    split
    · exact ⟨rfl, fun m hm => by simpa using hm⟩
    · exact ⟨rfl, fun m hm => Or.inr hm⟩

theorem foldl_updateStepLegacy_eq (excl : Bytes → Bool) (need : UEntry → Bool) (a : List UEntry) :
    ∀ s : UState, (names a).Nodup → (∀ e ∈ a, e.name ∉ s.done) →
      a.foldl (updateStepLegacy excl need) { s with done := [] } =
        { a.foldl (updateStep excl need) s with done := [] } := by
  induction a with
  | nil => intro s _ _; rfl
  | cons e a ih =>
    intro s hnd hd
    rw [names_cons, List.nodup_cons] at hnd
    have hs := updateStepLegacy_eq excl need s e (hd e List.mem_cons_self)
    rw [List.foldl_cons, List.foldl_cons, hs.1]
    apply ih _ hnd.2
    intro x hx hin
    rcases hs.2 _ hin with h1 | h1
    · exact hnd.1 (h1 ▸ mem_names_of_mem hx)
    · exact hd x (List.mem_cons_of_mem _ hx) h1

/-- an instance of the agreement, with an excluded target -/
theorem updateStep_eq_legacy_example :
    updateOpLegacy (fun n => n == [3]) (fun _ => true)
        [⟨[1], [10]⟩, ⟨[2], [20]⟩, ⟨[3], [30]⟩] [⟨[2], [21]⟩, ⟨[3], [31]⟩, ⟨[4], [40]⟩] =
      updateOp (fun n => n == [3]) (fun _ => true)
        [⟨[1], [10]⟩, ⟨[2], [20]⟩, ⟨[3], [30]⟩] [⟨[2], [21]⟩, ⟨[3], [31]⟩, ⟨[4], [40]⟩] := by decide

/-- `[2]` is replaced (moves behind the kept ones), `[4]` is new -/
example : updateOp (fun _ => false) (fun _ => true)
      [⟨[1], [10]⟩, ⟨[2], [20]⟩, ⟨[3], [30]⟩] [⟨[2], [21]⟩, ⟨[4], [40]⟩] =
    [⟨[1], [10]⟩, ⟨[3], [30]⟩, ⟨[2], [21]⟩, ⟨[4], [40]⟩] := by decide

/-- excluded `[2]`: the old entry stays in place -/
example : updateOp (fun n => n == [2]) (fun _ => true)
      [⟨[1], [10]⟩, ⟨[2], [20]⟩, ⟨[3], [30]⟩] [⟨[2], [21]⟩, ⟨[4], [40]⟩] =
    [⟨[1], [10]⟩, ⟨[2], [20]⟩, ⟨[3], [30]⟩, ⟨[4], [40]⟩] := by decide

/-- a target name twice, not in the archive: written once, the first one -/
example : updateOp (fun _ => false) (fun _ => true) [] [⟨[2], [21]⟩, ⟨[2], [22]⟩] =
    [⟨[2], [21]⟩] := by decide

/-- an archived name three times and a target name twice: one entry, the first target -/
example : updateOp (fun _ => false) (fun _ => true)
      [⟨[2], [1]⟩, ⟨[5], [50]⟩, ⟨[2], [2]⟩, ⟨[2], [3]⟩] [⟨[2], [21]⟩, ⟨[2], [22]⟩] =
    [⟨[5], [50]⟩, ⟨[2], [21]⟩] := by decide

/-- an archived name three times, excluded: all three are kept, in order, the target is dropped -/
example : updateOp (fun n => n == [2]) (fun _ => true)
      [⟨[2], [1]⟩, ⟨[5], [50]⟩, ⟨[2], [2]⟩, ⟨[2], [3]⟩] [⟨[2], [21]⟩, ⟨[2], [22]⟩] =
    [⟨[2], [1]⟩, ⟨[5], [50]⟩, ⟨[2], [2]⟩, ⟨[2], [3]⟩] := by decide

/-- the time filter is asked about the FIRST archived entry of a name only: here it says "up to
    date" for the first and "outdated" for the second — both are kept -/
example : updateOp (fun _ => false) (fun e => e.body == [2])
      [⟨[2], [1]⟩, ⟨[2], [2]⟩] [⟨[2], [21]⟩] = [⟨[2], [1]⟩, ⟨[2], [2]⟩] := by decide

/-- … and here "outdated" for the first and "up to date" for the second — both are left out -/
example : updateOp (fun _ => false) (fun e => e.body == [1])
      [⟨[2], [1]⟩, ⟨[2], [2]⟩] [⟨[2], [21]⟩] = [⟨[2], [21]⟩] := by decide

end Pna.Cli
