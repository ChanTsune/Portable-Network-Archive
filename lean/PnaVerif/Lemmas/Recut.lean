import PnaVerif.Lemmas.ListFacts
import PnaVerif.Lemmas.Chunk
import PnaVerif.Lemmas.Reser
import PnaVerif.Lemmas.EntryLoop
import PnaVerif.Lemmas.StreamView
import PnaVerif.Lemmas.Grouping
/-!
  Re-cutting of data chunks (property C03, entry and archive level).

  Two chunk lists are "the same up to the cutting of data chunks" iff their `streamView`s are equal
  (Lemmas/StreamView).  This file shows that the entry parsers, the item grouping and the item parser cannot tell such
  lists apart (under the hypothesis that a normal entry carries no SDAT and a solid entry no FDAT,
  which is necessary: `C03R.parseN_recut_needs_noSDAT`, `C03R.parseS_recut_needs_noFDAT`); results are compared
  with `OutcomeRel` (Lemmas/Outcome), lists of them with `All2` (Lemmas/ListFacts).

  Method: every function is compared with itself on the canonical representative `streamView xs`;
  the two-sided statements then follow by symmetry and transitivity.  For the two entry parsers this is done
  once, for a loop `loopOf step` whose body satisfies `Recuts` (`parseOf_recut`); `recutsN`, `recutsS` are the
  two instances.
-/
namespace Pna
open ChunkType

/-- same normal entry up to the cutting of its data -/
def SameN (a b : NormalEntry) : Prop :=
  a.header = b.header ∧ a.phsf = b.phsf ∧ a.extra = b.extra ∧ a.md = b.md ∧ a.xattrs = b.xattrs ∧
    a.data.flatten = b.data.flatten

/-- same solid entry up to the cutting of its data -/
def SameS (a b : SolidEntry) : Prop :=
  a.header = b.header ∧ a.phsf = b.phsf ∧ a.extra = b.extra ∧ a.data.flatten = b.data.flatten

def SameE : ReadEntry → ReadEntry → Prop
  | .normal a, .normal b => SameN a b
  | .solid a, .solid b => SameS a b
  | _, _ => False

instance (a b : NormalEntry) : Decidable (SameN a b) := by unfold SameN; infer_instance
instance (a b : SolidEntry) : Decidable (SameS a b) := by unfold SameS; infer_instance
instance (a b : ReadEntry) : Decidable (SameE a b) := by
  cases a <;> cases b <;> simp only [SameE] <;> infer_instance

theorem SameN.refl (a : NormalEntry) : SameN a a := ⟨rfl, rfl, rfl, rfl, rfl, rfl⟩
theorem SameN.symm {a b : NormalEntry} (h : SameN a b) : SameN b a :=
  ⟨h.1.symm, h.2.1.symm, h.2.2.1.symm, h.2.2.2.1.symm, h.2.2.2.2.1.symm, h.2.2.2.2.2.symm⟩
theorem SameN.trans {a b c : NormalEntry} (h : SameN a b) (g : SameN b c) : SameN a c :=
  ⟨h.1.trans g.1, h.2.1.trans g.2.1, h.2.2.1.trans g.2.2.1, h.2.2.2.1.trans g.2.2.2.1,
    h.2.2.2.2.1.trans g.2.2.2.2.1, h.2.2.2.2.2.trans g.2.2.2.2.2⟩

theorem SameS.refl (a : SolidEntry) : SameS a a := ⟨rfl, rfl, rfl, rfl⟩
theorem SameS.symm {a b : SolidEntry} (h : SameS a b) : SameS b a :=
  ⟨h.1.symm, h.2.1.symm, h.2.2.1.symm, h.2.2.2.symm⟩
theorem SameS.trans {a b c : SolidEntry} (h : SameS a b) (g : SameS b c) : SameS a c :=
  ⟨h.1.trans g.1, h.2.1.trans g.2.1, h.2.2.1.trans g.2.2.1, h.2.2.2.trans g.2.2.2⟩

theorem SameE.refl (a : ReadEntry) : SameE a a := by
  cases a with
  | normal e => exact SameN.refl e
  | solid s => exact SameS.refl s
theorem SameE.symm {a b : ReadEntry} (h : SameE a b) : SameE b a := by
  cases a <;> cases b <;> simp only [SameE] at h ⊢
  · exact h.symm
  · exact h.symm
theorem SameE.trans {a b c : ReadEntry} (h : SameE a b) (g : SameE b c) : SameE a c := by
  cases a <;> cases b <;> cases c <;> simp only [SameE] at h g ⊢
  · exact h.trans g
  · exact h.trans g

/-- `step` cannot tell `R`-related states apart, and on two chunks of type `t` in a row it does what it does on the
    merged chunk -/
structure Recuts {σ : Type} (step : σ → Chunk → Outcome (Option σ)) (R : σ → σ → Prop) (t : ChunkType) : Prop where
  trans : ∀ {a b c}, R a b → R b c → R a c
  cong : ∀ {a b}, R a b → ∀ c, OutcomeRel (OptRel R) (step a c) (step b c)
  merge : ∀ a x y, ∃ a₁ a₂ a₃, step a ⟨t, x⟩ = .ok (some a₁) ∧ step a₁ ⟨t, y⟩ = .ok (some a₂) ∧
    step a ⟨t, x ++ y⟩ = .ok (some a₃) ∧ R a₂ a₃

section
variable {σ : Type} {step : σ → Chunk → Outcome (Option σ)} {R : σ → σ → Prop} {t : ChunkType}

/-- one iteration on both sides; the tails may differ (`loopOf_streamView` runs `cs` against its canonical form) -/
theorem loopOf_cons_rel (h : Recuts step R t) {a b : σ} (hab : R a b) (c : Chunk) (xs ys : List Chunk)
    (k : ∀ a' b', R a' b' → OutcomeRel R (loopOf step a' xs) (loopOf step b' ys)) :
    OutcomeRel R (loopOf step a (c :: xs)) (loopOf step b (c :: ys)) := by
  simp only [loopOf]
  rcases (h.cong hab c).cases with ⟨o, p, e1, e2, hop⟩ | ⟨e, e1, e2⟩ | ⟨s, u, e1, e2⟩ <;> rw [e1, e2]
  · cases o <;> cases p <;> simp only [OptRel] at hop
    · exact hab
    · exact k _ _ hop
  · exact rfl
  · exact True.intro

theorem loopOf_rel (h : Recuts step R t) (cs : List Chunk) : ∀ {a b : σ}, R a b →
    OutcomeRel R (loopOf step a cs) (loopOf step b cs) := by
  induction cs with
  | nil => exact id
  | cons c cs ih => exact fun hab => loopOf_cons_rel h hab c cs cs fun _ _ => ih

theorem loopOf_streamView (h : Recuts step R t) (cs : List Chunk) (hcs : ∀ c ∈ cs, c.isStream = true → c.ty = t) :
    ∀ {a b : σ}, R a b → OutcomeRel R (loopOf step a cs) (loopOf step b (streamView cs)) := by
  induction cs with
  | nil => exact id
  | cons c cs ih =>
    intro a b hab
    have ih' : ∀ a b, R a b → _ := fun a b => @ih (fun x hx => hcs x (List.mem_cons_of_mem _ hx)) a b
    rw [streamView_cons]
    generalize streamView cs = Z at ih' ⊢
    rcases svStep_cases c Z with e | ⟨d, ds, rfl, hs, ht, e⟩ <;> rw [e]
    · exact loopOf_cons_rel h hab c cs Z ih'
    · -- `c` is merged into the first chunk of the canonical form of the rest
      obtain ⟨ct, x⟩ := c
      obtain ⟨dt, y⟩ := d
      obtain rfl : ct = t := hcs _ List.mem_cons_self hs
      obtain rfl : ct = dt := ht
      obtain ⟨b₁, b₂, b₃, e1, e2, e3, hr⟩ := h.merge b x y
      refine OutcomeRel.trans (R := R) (fun _ _ _ => h.trans) (loopOf_cons_rel h hab _ cs (_ :: ds) ih') ?_
      simp only [loopOf, e1, e2, e3]
      exact loopOf_rel h ds hr

/-- the common shape of `parseN` and `parseS` (`parseN_eq`, `parseS_eq`) -/
def parseOf {ε : Type} (hd : ChunkType) (fin : Outcome σ → Outcome ε) (step : σ → Chunk → Outcome (Option σ)) (init : σ)
    (raw : List Chunk) : Outcome ε :=
  match raw.head?.map (·.ty) with
  | some t => if t ≠ hd then .error .invalidData else fin (loopOf step init raw)
  | none => fin (loopOf step init raw)

theorem parseOf_recut {ε : Type} {S : ε → ε → Prop} (h : Recuts step R t) (hd : ChunkType) {fin : Outcome σ → Outcome ε}
    (hfin : ∀ {x y}, OutcomeRel R x y → OutcomeRel S (fin x) (fin y)) {init : σ} (hi : R init init)
    (symm : ∀ a b, S a b → S b a) (trans : ∀ a b c, S a b → S b c → S a c) (a b : List Chunk)
    (ha : ∀ c ∈ a, c.isStream = true → c.ty = t) (hb : ∀ c ∈ b, c.isStream = true → c.ty = t)
    (hv : streamView a = streamView b) :
    OutcomeRel S (parseOf hd fin step init a) (parseOf hd fin step init b) := by
  have key : ∀ a, (∀ c ∈ a, c.isStream = true → c.ty = t) →
      OutcomeRel S (parseOf hd fin step init a) (parseOf hd fin step init (streamView a)) := by
    intro a ha
    have hl := hfin (loopOf_streamView h a ha hi)
    unfold parseOf
    rw [streamView_head_ty]
    cases a.head?.map (·.ty) with
    | none => exact hl
    | some t =>
      simp only
      split
      · exact rfl
      · exact hl
  exact OutcomeRel.trans trans (key a ha) (hv ▸ OutcomeRel.symm symm (key b hb))

end

/-- same parser state up to the cutting of the data seen so far -/
def AccRelN (a b : NAcc) : Prop :=
  a.info = b.info ∧ a.phsf = b.phsf ∧ a.extra = b.extra ∧ a.xattrs = b.xattrs ∧ a.size = b.size ∧
    a.ctime = b.ctime ∧ a.mtime = b.mtime ∧ a.atime = b.atime ∧ a.perm = b.perm ∧
    a.data.reverse.flatten = b.data.reverse.flatten

theorem AccRelN.refl (a : NAcc) : AccRelN a a := ⟨rfl, rfl, rfl, rfl, rfl, rfl, rfl, rfl, rfl, rfl⟩
theorem AccRelN.symm {a b : NAcc} (h : AccRelN a b) : AccRelN b a := by
  obtain ⟨h1, h2, h3, h4, h5, h6, h7, h8, h9, h10⟩ := h
  exact ⟨h1.symm, h2.symm, h3.symm, h4.symm, h5.symm, h6.symm, h7.symm, h8.symm, h9.symm, h10.symm⟩
theorem AccRelN.trans {a b c : NAcc} (h : AccRelN a b) (g : AccRelN b c) : AccRelN a c := by
  obtain ⟨h1, h2, h3, h4, h5, h6, h7, h8, h9, h10⟩ := h
  obtain ⟨g1, g2, g3, g4, g5, g6, g7, g8, g9, g10⟩ := g
  exact ⟨h1.trans g1, h2.trans g2, h3.trans g3, h4.trans g4, h5.trans g5, h6.trans g6, h7.trans g7,
    h8.trans g8, h9.trans g9, h10.trans g10⟩

/-- the part of `parseN` after the loop -/
def finishN : Outcome NAcc → Outcome NormalEntry
  | .error e => .error e
  | .panic s => .panic s
  | .ok a =>
    match a.info with
    | none => .error .invalidData
    | some h =>
      if h.major ≠ 0 ∨ h.minor ≠ 0 then .error .unsupported
      else .ok { header := h, phsf := a.phsf, extra := a.extra.reverse, data := a.data.reverse,
                 md := { rawSize := a.size, created := a.ctime, modified := a.mtime,
                           accessed := a.atime, permission := a.perm },
                 xattrs := a.xattrs.reverse }

theorem finishN_rel {x y : Outcome NAcc} (h : OutcomeRel AccRelN x y) :
    OutcomeRel SameN (finishN x) (finishN y) := by
  rcases h.cases with ⟨a, b, rfl, rfl, h1, h2, h3, h4, h5, h6, h7, h8, h9, h10⟩ | ⟨e, rfl, rfl⟩ | ⟨s, u, rfl, rfl⟩
  · simp only [finishN, ← h1]
    cases a.info with
    | none => exact rfl
    | some hd => exact .ite rfl ⟨rfl, h2, by simp only [h3], by simp only [h5, h6, h7, h8, h9], by simp only [h4], h10⟩
  · exact rfl
  · exact True.intro

theorem parseN_eq (raw : List Chunk) : parseN raw = parseOf FHED finishN nStep {} raw := by
  unfold parseN parseN.go parseOf finishN
  rw [nLoop_eq]
  cases raw.head? <;> cases loopOf nStep {} raw <;> rfl

theorem recutsN : Recuts nStep AccRelN FDAT where
  trans := AccRelN.trans
  cong h c := by
    obtain ⟨h1, h2, h3, h4, h5, h6, h7, h8, h9, h10⟩ := h
    unfold nStep
    -- one branch per chunk type, the same test on both sides
    refine .ite True.intro (.ite ?_ (.ite ?_ (.ite ?_ (.ite ?_ (.ite ?_ (.ite ?_ (.ite ?_ (.ite ?_ (.ite ?_ ?_)))))))))
    · cases decFHED c.data <;> simp [OptRel, AccRelN, *]
    · split <;> simp [OptRel, AccRelN, *]
    · simp [OptRel, AccRelN, *]
    · simp [OptRel, AccRelN, *]
    · cases decTime c.data <;> simp [OptRel, AccRelN, *]
    · cases decTime c.data <;> simp [OptRel, AccRelN, *]
    · cases decTime c.data <;> simp [OptRel, AccRelN, *]
    · cases decFPRM c.data <;> simp [OptRel, AccRelN, *]
    · cases decXATR c.data <;> simp [OptRel, AccRelN, *]
    · simp [OptRel, AccRelN, *]
  merge a x y := ⟨_, _, _, nStep_FDAT a x, nStep_FDAT _ y, nStep_FDAT a (x ++ y), by simp [AccRelN]⟩

theorem parseN_recut (a b : List Chunk) (ha : ∀ c ∈ a, c.ty ≠ SDAT) (hb : ∀ c ∈ b, c.ty ≠ SDAT)
    (h : streamView a = streamView b) : OutcomeRel SameN (parseN a) (parseN b) := by
  rw [parseN_eq, parseN_eq]
  exact parseOf_recut recutsN FHED finishN_rel (AccRelN.refl _) (fun _ _ => SameN.symm) (fun _ _ _ => SameN.trans) a b
    (fun c hc hs => (isStream_cases hs).resolve_right (ha c hc))
    (fun c hc hs => (isStream_cases hs).resolve_right (hb c hc)) h

def AccRelS (a b : SAcc) : Prop :=
  a.info = b.info ∧ a.phsf = b.phsf ∧ a.extra = b.extra ∧ a.data.reverse.flatten = b.data.reverse.flatten

theorem AccRelS.refl (a : SAcc) : AccRelS a a := ⟨rfl, rfl, rfl, rfl⟩
theorem AccRelS.symm {a b : SAcc} (h : AccRelS a b) : AccRelS b a :=
  ⟨h.1.symm, h.2.1.symm, h.2.2.1.symm, h.2.2.2.symm⟩
theorem AccRelS.trans {a b c : SAcc} (h : AccRelS a b) (g : AccRelS b c) : AccRelS a c :=
  ⟨h.1.trans g.1, h.2.1.trans g.2.1, h.2.2.1.trans g.2.2.1, h.2.2.2.trans g.2.2.2⟩

/-- the part of `parseS` after the loop -/
def finishS : Outcome SAcc → Outcome SolidEntry
  | .error e => .error e
  | .panic s => .panic s
  | .ok a =>
    match a.info with
    | none => .error .invalidData
    | some h => .ok { header := h, phsf := a.phsf, data := a.data.reverse, extra := a.extra.reverse }

theorem finishS_rel {x y : Outcome SAcc} (h : OutcomeRel AccRelS x y) :
    OutcomeRel SameS (finishS x) (finishS y) := by
  rcases h.cases with ⟨a, b, rfl, rfl, h1, h2, h3, h4⟩ | ⟨e, rfl, rfl⟩ | ⟨s, u, rfl, rfl⟩
  · simp only [finishS, ← h1]
    cases a.info with
    | none => exact rfl
    | some hd => exact ⟨rfl, h2, by simp only [h3], h4⟩
  · exact rfl
  · exact True.intro

theorem parseS_eq (raw : List Chunk) : parseS raw = parseOf SHED finishS sStep {} raw := by
  unfold parseS parseS.go parseOf finishS
  rw [sLoop_eq]
  cases raw.head? <;> cases loopOf sStep {} raw <;> rfl

theorem recutsS : Recuts sStep AccRelS SDAT where
  trans := AccRelS.trans
  cong h c := by
    obtain ⟨h1, h2, h3, h4⟩ := h
    unfold sStep
    refine .ite True.intro (.ite ?_ (.ite ?_ (.ite ?_ ?_)))
    · cases decSHED c.data <;> simp [OptRel, AccRelS, *]
    · simp [OptRel, AccRelS, *]
    · split <;> simp [OptRel, AccRelS, *]
    · simp [OptRel, AccRelS, *]
  merge a x y := ⟨_, _, _, sStep_SDAT a x, sStep_SDAT _ y, sStep_SDAT a (x ++ y), by simp [AccRelS]⟩

theorem parseS_recut (a b : List Chunk) (ha : ∀ c ∈ a, c.ty ≠ FDAT) (hb : ∀ c ∈ b, c.ty ≠ FDAT)
    (h : streamView a = streamView b) : OutcomeRel SameS (parseS a) (parseS b) := by
  rw [parseS_eq, parseS_eq]
  exact parseOf_recut recutsS SHED finishS_rel (AccRelS.refl _) (fun _ _ => SameS.symm) (fun _ _ _ => SameS.trans) a b
    (fun c hc hs => (isStream_cases hs).resolve_left (ha c hc))
    (fun c hc hs => (isStream_cases hs).resolve_left (hb c hc)) h

/-- an item does not carry the data chunks of the other kind: a normal entry (first chunk FHED) has no
    SDAT chunk, a solid entry (first chunk SHED) has no FDAT chunk -/
def Unmixed (it : List Chunk) : Prop :=
  ∀ c0, it.head? = some c0 →
    (c0.ty = ChunkType.FHED → ∀ c ∈ it, c.ty ≠ ChunkType.SDAT) ∧
    (c0.ty = ChunkType.SHED → ∀ c ∈ it, c.ty ≠ ChunkType.FDAT)

instance (it : List Chunk) : Decidable (Unmixed it) := by
  unfold Unmixed
  cases it with
  | nil => exact isTrue (by intro c0 h; cases h)
  | cons c cs =>
    exact decidable_of_iff
      ((c.ty = ChunkType.FHED → ∀ x ∈ c :: cs, x.ty ≠ ChunkType.SDAT) ∧
        (c.ty = ChunkType.SHED → ∀ x ∈ c :: cs, x.ty ≠ ChunkType.FDAT))
      ⟨fun h c0 hc0 => by
        cases hc0
        exact h,
       fun h => h c rfl⟩

theorem parseEntry_eq (raw : List Chunk) :
    parseEntry raw = match raw.head?.map (·.ty) with
      | none => .error .invalidData
      | some t =>
        if t = ChunkType.SHED then (parseS raw).map' .solid
        else if t = ChunkType.FHED then (parseN raw).map' .normal
        else .error .invalidData := by
  unfold parseEntry
  cases raw.head? <;> rfl

theorem Unmixed.normal {it : List Chunk} (h : Unmixed it) (ht : it.head?.map (·.ty) = some ChunkType.FHED) :
    ∀ c ∈ it, c.ty ≠ ChunkType.SDAT := by
  cases it with
  | nil => simp at ht
  | cons c0 rest =>
    simp only [List.head?_cons, Option.map_some, Option.some.injEq] at ht
    exact (h c0 rfl).1 ht

theorem Unmixed.solid {it : List Chunk} (h : Unmixed it) (ht : it.head?.map (·.ty) = some ChunkType.SHED) :
    ∀ c ∈ it, c.ty ≠ ChunkType.FDAT := by
  cases it with
  | nil => simp at ht
  | cons c0 rest =>
    simp only [List.head?_cons, Option.map_some, Option.some.injEq] at ht
    exact (h c0 rfl).2 ht

theorem parseEntry_recut (a b : List Chunk) (ua : Unmixed a) (ub : Unmixed b)
    (h : streamView a = streamView b) : OutcomeRel SameE (parseEntry a) (parseEntry b) := by
  have hh : a.head?.map (·.ty) = b.head?.map (·.ty) := by
    rw [← streamView_head_ty a, ← streamView_head_ty b, h]
  rw [parseEntry_eq, parseEntry_eq, ← hh]
  cases hta : a.head?.map (·.ty) with
  | none => exact rfl
  | some t =>
    simp only
    by_cases hs : t = ChunkType.SHED
    · simp only [if_pos hs]
      subst hs
      exact OutcomeRel.map (R := SameS) (S := SameE) ReadEntry.solid (fun _ _ p => p)
        (parseS_recut a b (ua.solid hta) (ub.solid (hh ▸ hta)) h)
    · simp only [if_neg hs]
      by_cases hf : t = ChunkType.FHED
      · simp only [if_pos hf]
        subst hf
        exact OutcomeRel.map (R := SameN) (S := SameE) ReadEntry.normal (fun _ _ p => p)
          (parseN_recut a b (ua.normal hta) (ub.normal (hh ▸ hta)) h)
      · simp only [if_neg hf]; exact rfl

/-- same chunk list up to the cutting of data chunks -/
def SvEq (x y : List Chunk) : Prop := streamView x = streamView y

theorem SvEq.refl (x : List Chunk) : SvEq x x := rfl
theorem SvEq.symm {x y : List Chunk} (h : SvEq x y) : SvEq y x := Eq.symm h
theorem SvEq.trans {x y z : List Chunk} (h : SvEq x y) (g : SvEq y z) : SvEq x z := Eq.trans h g
theorem SvEq.append {x y u v : List Chunk} (h : SvEq x y) (g : SvEq u v) : SvEq (x ++ u) (y ++ v) :=
  streamView_congr h g
theorem SvEq.streamView (x : List Chunk) : SvEq x (streamView x) := (streamView_idem x).symm

/-- result of `groupItems`: items, carry, continuation flag, "AEND seen" -/
abbrev GRes := List (List Chunk) × List Chunk × Bool × Bool

/-- same grouping result up to the cutting of data chunks -/
def GRel (r s : GRes) : Prop :=
  All2 SvEq r.1 s.1 ∧ SvEq r.2.1 s.2.1 ∧ r.2.2.1 = s.2.2.1 ∧ r.2.2.2 = s.2.2.2

theorem GRel.refl (r : GRes) : GRel r r := ⟨All2.refl SvEq.refl _, rfl, rfl, rfl⟩
theorem GRel.symm {r s : GRes} (h : GRel r s) : GRel s r :=
  ⟨All2.symm (R := SvEq) (fun _ _ p => SvEq.symm p) h.1, h.2.1.symm, h.2.2.1.symm, h.2.2.2.symm⟩
theorem GRel.trans {r s t : GRes} (h : GRel r s) (g : GRel s t) : GRel r t :=
  ⟨All2.trans (R := SvEq) (fun _ _ _ p q => SvEq.trans p q) h.1 g.1, h.2.1.trans g.2.1, h.2.2.1.trans g.2.2.1,
    h.2.2.2.trans g.2.2.2⟩

/-- one step on both sides; the rests may differ, as in `loopOf_cons_rel` -/
theorem groupItems_step {cur₁ cur₂ : List Chunk} (hc : SvEq cur₁ cur₂) (nx : Bool) (c : Chunk)
    (xs ys : List Chunk)
    (ih : ∀ (k₁ k₂ : List Chunk) (n : Bool), SvEq k₁ k₂ → GRel (groupItems k₁ n xs) (groupItems k₂ n ys)) :
    GRel (groupItems cur₁ nx (c :: xs)) (groupItems cur₂ nx (c :: ys)) := by
  by_cases h1 : c.ty = FEND ∨ c.ty = SEND
  · rw [groupItems_close _ _ _ _ h1, groupItems_close _ _ _ _ h1]
    have g := ih [] [] nx (SvEq.refl [])
    exact ⟨.cons (hc.append (SvEq.refl [c])) g.1, g.2⟩
  · by_cases h2 : c.ty = ANXT
    · rw [groupItems_anxt _ _ _ _ h2, groupItems_anxt _ _ _ _ h2]
      exact ih _ _ _ hc
    · by_cases h3 : c.ty = AEND
      · rw [groupItems_aend _ _ _ _ h3, groupItems_aend _ _ _ _ h3]
        exact ⟨.nil, hc, rfl, rfl⟩
      · rw [groupItems_other _ _ _ _ h1 h2 h3, groupItems_other _ _ _ _ h1 h2 h3]
        exact ih _ _ _ (hc.append (SvEq.refl [c]))

theorem groupItems_rel_cur (xs : List Chunk) : ∀ (cur₁ cur₂ : List Chunk) (nx : Bool), SvEq cur₁ cur₂ →
    GRel (groupItems cur₁ nx xs) (groupItems cur₂ nx xs) := by
  induction xs with
  | nil => intro cur₁ cur₂ nx hc; exact ⟨.nil, hc, rfl, rfl⟩
  | cons c xs ih => intro cur₁ cur₂ nx hc; exact groupItems_step hc nx c xs xs ih

theorem groupItems_svStep (cur : List Chunk) (nx : Bool) (c : Chunk) (Z : List Chunk) :
    GRel (groupItems cur nx (c :: Z)) (groupItems cur nx (svStep c Z)) := by
  rcases svStep_cases c Z with e | ⟨d, ds, rfl, hs, ht, e⟩ <;> rw [e]
  · exact GRel.refl _
  · obtain ⟨c1, c2, c3⟩ := stream_not_marker hs
    rw [groupItems_other _ _ _ _ c1 c2 c3, groupItems_other _ _ d _ (ht ▸ c1) (ht ▸ c2) (ht ▸ c3),
      groupItems_other _ _ ⟨c.ty, c.data ++ d.data⟩ _ c1 c2 c3, List.append_assoc]
    apply groupItems_rel_cur
    apply (SvEq.refl cur).append
    show streamView ([c] ++ [d]) = streamView [⟨c.ty, c.data ++ d.data⟩]
    simp only [List.cons_append, List.nil_append, streamView_cons, streamView_nil]
    exact svStep_merge c d [] hs ht

theorem groupItems_streamView (xs : List Chunk) : ∀ (cur₁ cur₂ : List Chunk) (nx : Bool), SvEq cur₁ cur₂ →
    GRel (groupItems cur₁ nx xs) (groupItems cur₂ nx (streamView xs)) := by
  induction xs with
  | nil => intro cur₁ cur₂ nx hc; exact ⟨.nil, hc, rfl, rfl⟩
  | cons c xs ih =>
    intro cur₁ cur₂ nx hc
    rw [streamView_cons]
    exact (groupItems_step hc nx c xs (streamView xs) ih).trans
      (groupItems_svStep cur₂ nx c (streamView xs))

theorem groupItems_recut (cur₁ cur₂ : List Chunk) (nx : Bool) (xs ys : List Chunk)
    (hc : streamView cur₁ = streamView cur₂) (h : streamView xs = streamView ys) :
    GRel (groupItems cur₁ nx xs) (groupItems cur₂ nx ys) := by
  have h1 := groupItems_streamView xs cur₁ cur₂ nx hc
  have h2 := groupItems_streamView ys cur₂ cur₂ nx (SvEq.refl _)
  rw [h] at h1
  exact h1.trans h2.symm

theorem parseItems_rel {its₁ its₂ : List (List Chunk)} (h : All2 SvEq its₁ its₂)
    (u₁ : ∀ it ∈ its₁, Unmixed it) (u₂ : ∀ it ∈ its₂, Unmixed it) :
    All2 SameE (parseItems its₁).1 (parseItems its₂).1 ∧
      OutcomeRel (fun _ _ => True) (parseItems its₁).2 (parseItems its₂).2 := by
  induction h with
  | nil => exact ⟨.nil, True.intro⟩
  | @cons a b as bs hab _ ih =>
    have hr := parseEntry_recut a b (u₁ a (by simp)) (u₂ b (by simp)) hab
    have ih2 := ih (fun it hit => u₁ it (by simp [hit])) (fun it hit => u₂ it (by simp [hit]))
    simp only [parseItems]
    rcases hr.cases with ⟨e, f, e1, e2, he⟩ | ⟨e, e1, e2⟩ | ⟨s, u, e1, e2⟩ <;> rw [e1, e2]
    · exact ⟨.cons he ih2.1, ih2.2⟩
    · exact ⟨.nil, rfl⟩
    · exact ⟨.nil, True.intro⟩

end Pna
