import PnaVerif.Model.Cli.Acl
import PnaVerif.Lemmas.CliText
/-!
A second evaluator for the access-control text layer, for the kernel.

The model spells its name tables as `String` literals and decodes UTF-8 through `String.fromUTF8?`.  The kernel evaluates
`"…".toList` and `String.fromUTF8?` by running core's UTF-8 decoder over a `ByteArray`: some ten thousand heartbeats a
character, growing with the length, and again in every declaration.  `Fast.x` is the model's `x` over the tables of
characters `flagT`, `permT` (Lemmas/CliText.lean) and with a linear path for ASCII bytes; `Fast.x_eq : x = Fast.x` is
proved right under each, and a concrete example rewrites with it before it evaluates.

A change to `aclOf`, `parseAce`, `parseAceP`, `showAce`, `aclChunks`, `toAce`, `modifyFirst` or `aclSetE` in the model must
be mirrored in the twin here: each `_eq` closes by `rfl` once the tables and the earlier `_eq`s are rewritten, and breaks
otherwise.
-/
namespace Pna.Cli.Fast
open Text

theorem utf8EncodeChar_ascii (x : UInt8) (h : x < 128) : String.utf8EncodeChar (Char.ofNat x.toNat) = [x] := by
  have hx : x.toNat < 128 := h
  have hv : (Char.ofNat x.toNat).val.toNat = x.toNat := by
    rw [Char.ofNat, dif_pos (by left; omega)]
    simp [Char.ofNatAux]
  simp only [String.utf8EncodeChar, hv, if_pos (Nat.le_of_lt_succ hx), UInt8.ofNat_toNat]

def toAscii (b : Bytes) : Str := b.map fun x => Char.ofNat x.toNat

theorem utf8_toAscii (b : Bytes) (h : b.all (· < 128) = true) : utf8 (toAscii b) = b := by
  induction b with
  | nil => rfl
  | cons x b ih =>
    rw [List.all_cons, Bool.and_eq_true, decide_eq_true_eq] at h
    have := ih h.2
    simp only [utf8, toAscii, List.map_cons, List.flatMap_cons] at this ⊢
    rw [utf8EncodeChar_ascii x h.1, this]
    rfl

def decode (b : Bytes) : Option Str := if b.all (· < 128) then some (toAscii b) else decodeUtf8 b

theorem decodeUtf8_eq : decodeUtf8 = decode := by
  funext b
  unfold decode
  split
  · rename_i h
    conv => lhs; rw [← utf8_toAscii b h]
    exact decodeUtf8_utf8 _
  · rfl

def showAce (a : Ace) : Str :=
  showSet flagT a.flags ++ ':' :: showOwner a.owner ++ ':' ::
    (if a.allow then "allow".toList else "deny".toList) ++ ':' :: showSet permT a.perms

theorem showAce_eq : Text.showAce = showAce := by
  funext a
  rw [Text.showAce, flagTable_eq, permTable_eq]
  rfl

def parseAce (s : Str) : Except AceErr Ace :=
  match splitOn ':' s with
  | [] => .error .notEnough
  | [_] => .error .notEnough
  | [_, _] => .error .notEnough
  | f :: kind :: name :: rest =>
    match parseOwner kind name with
    | .error e => .error e
    | .ok o =>
      match rest with
      | [] => .error .notEnough
      | al :: rest =>
        if al ≠ "allow".toList ∧ al ≠ "deny".toList then .error .badAccess
        else match rest with
          | [] => .error .notEnough
          | [pm] => .ok { flags := parseSet flagT f, owner := o, allow := al = "allow".toList,
                          perms := parseSet permT pm }
          | _ :: _ :: _ => .error .tooMany

theorem parseAce_eq : Text.parseAce = parseAce := by
  funext s
  rw [Text.parseAce, flagTable_eq, permTable_eq]
  rfl

def parseAceP (s : Str) : Except AceErr (Option Str × Ace) :=
  if (s.filter (· = ':')).length = 5 then
    let p := s.takeWhile (· ≠ ':')
    let r := (s.dropWhile (· ≠ ':')).drop 1
    (parseAce r).map fun a => (some p, a)
  else (parseAce s).map fun a => (none, a)

theorem parseAceP_eq : Text.parseAceP = parseAceP := by
  funext s
  rw [Text.parseAceP, parseAce_eq]
  rfl

def aclOf : Str → AclMap → List (Bytes × Bytes) → Option AclMap
  | _, m, [] => some m
  | cur, m, (t, d) :: rest =>
    if t = faCl then
      match decode d with
      | some p => aclOf p m rest
      | none => none
    else if t = faCe then
      match decode d with
      | none => none
      | some s =>
        match parseAceP s with
        | .ok (p, a) => aclOf cur (aclInsert m (p.getD cur) a) rest
        | .error _ => none
    else aclOf cur m rest

theorem aclOf_eq : Cli.aclOf = aclOf := by
  funext cur m cs
  induction cs generalizing cur m with
  | nil => rfl
  | cons x cs ih =>
    obtain ⟨t, d⟩ := x
    rw [Cli.aclOf, aclOf, decodeUtf8_eq, parseAceP_eq]
    simp only [ih]
    rfl

def aclChunks (m : AclMap) : List (Bytes × Bytes) :=
  m.flatMap fun (p, aces) => (faCl, utf8 p) :: aces.map fun a => (faCe, utf8 (showAce a))

theorem aclChunks_eq : Cli.aclChunks = aclChunks := by
  funext m
  rw [Cli.aclChunks, showAce_eq]
  rfl

def toAce (x : AclArg) : Ace :=
  { flags := flagT.map (fun row => x.dflt && row.1 == 1), owner := x.owner, allow := true,
    perms := parseSet permT (x.perms.getD []) }

theorem toAce_eq : AclArg.toAce = toAce := by
  funext x
  rw [AclArg.toAce, flagTable_eq, permTable_eq]
  rfl

def modifyFirst (x : AclArg) : List Ace → List Ace
  | [] => []
  | a :: rest => if x.isMatch a then { a with perms := (toAce x).perms } :: rest else a :: modifyFirst x rest

theorem modifyFirst_eq : Cli.modifyFirst = modifyFirst := by
  funext x l
  induction l with
  | nil => rfl
  | cons a l ih => rw [Cli.modifyFirst, modifyFirst, toAce_eq, ih]

def aclSetE (modify remove : Option AclArg) (e : LEntry) : LEntry :=
  let m := (aclOf [] [] e.extras).getD []
  if !(m.any (·.1 == [])) then e
  else
    let upd := fun (acl : List Ace) =>
      let acl := match modify with
        | some x => if acl.any x.isMatch then modifyFirst x acl else acl ++ [toAce x]
        | none => acl
      match remove with
      | some x => acl.filter (fun a => !x.isMatch a)
      | none => acl
    let m2 := m.map (fun p => if p.1 == [] then (p.1, upd p.2) else p)
    { e with extras := aclChunks m2 ++ e.extras.filter (fun x => !isAclChunk x) }

theorem aclSetE_eq : Cli.aclSetE = aclSetE := by
  funext modify remove e
  rw [Cli.aclSetE, aclOf_eq, aclChunks_eq, modifyFirst_eq, toAce_eq]
  rfl

end Pna.Cli.Fast
