import PnaVerif.Model.Entry
import PnaVerif.Lemmas.Outcome
/-!
  The entry parsers' loops (`nLoop` for `NormalEntry::try_from`, `sLoop` for `SolidEntry::try_from`) are one
  function of the loop body: `loopOf step` folds `step` over the chunks until it breaks (`.ok none`) or fails.
  A fact that needs of the loop body only what it states as hypotheses is proved once for `loopOf` and read for
  both parsers through `nLoop_eq` / `sLoop_eq`: invariants (`loopOf_inv`), totality (`loopOf_no_panic`), here;
  indifference to the cutting of data chunks, in `Lemmas/Recut.lean`.
-/
namespace Pna

def loopOf {σ : Type} (step : σ → Chunk → Outcome (Option σ)) (a : σ) : List Chunk → Outcome σ
  | [] => .ok a
  | c :: cs =>
    match step a c with
    | .error e => .error e
    | .panic s => .panic s
    | .ok none => .ok a
    | .ok (some a') => loopOf step a' cs

theorem nLoop_eq (a : NAcc) (cs : List Chunk) : nLoop a cs = loopOf nStep a cs := by
  induction cs generalizing a with
  | nil => rfl
  | cons c cs ih =>
    simp only [nLoop, loopOf, ih]
    rcases nStep a c with (_ | _) | _ | _ <;> rfl

theorem sLoop_eq (a : SAcc) (cs : List Chunk) : sLoop a cs = loopOf sStep a cs := by
  induction cs generalizing a with
  | nil => rfl
  | cons c cs ih =>
    simp only [sLoop, loopOf, ih]
    rcases sStep a c with (_ | _) | _ | _ <;> rfl

theorem loopOf_cons_some {σ : Type} {step : σ → Chunk → Outcome (Option σ)} {a a' : σ} {c : Chunk} (cs : List Chunk)
    (h : step a c = .ok (some a')) : loopOf step a (c :: cs) = loopOf step a' cs := by
  simp only [loopOf, h]

theorem loopOf_cons_none {σ : Type} {step : σ → Chunk → Outcome (Option σ)} {a : σ} {c : Chunk} (cs : List Chunk)
    (h : step a c = .ok none) : loopOf step a (c :: cs) = .ok a := by
  simp only [loopOf, h]

theorem loopOf_inv {σ : Type} {step : σ → Chunk → Outcome (Option σ)} (P : σ → Prop)
    (hstep : ∀ a c a', step a c = .ok (some a') → P a → P a') {cs : List Chunk} {a b : σ}
    (h : loopOf step a cs = .ok b) (ha : P a) : P b := by
  induction cs generalizing a with
  | nil =>
    cases h
    exact ha
  | cons c cs ih =>
    unfold loopOf at h
    split at h <;> try cases h
    · exact ha
    · exact ih h (hstep _ _ _ ‹_› ha)

theorem loopOf_no_panic {σ : Type} {step : σ → Chunk → Outcome (Option σ)}
    (hstep : ∀ a c, (step a c).isPanic = false) (a : σ) (cs : List Chunk) :
    (loopOf step a cs).isPanic = false := by
  induction cs generalizing a with
  | nil => rfl
  | cons c cs ih =>
    unfold loopOf
    split
    · rfl
    · exact (ne_panic (hstep a c) ‹_›).elim
    · rfl
    · exact ih _

end Pna
