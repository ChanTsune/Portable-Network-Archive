import PnaVerif.Lemmas.Reser
import PnaVerif.Lemmas.SerShape
/-!
  For the entry-level size theorems (Props/C18Entry.lean).  `fdatTotal` is the payload total of the FDAT chunks of a
  chunk list: two theorems there name it (`parsed_size_survives_rewrite`, `built_compressed_size_on_wire_WF`), the
  others write the same sum out (`((cs.filter …).map …).sum`, to which `fdatTotal cs` unfolds); `sdatTotal`, the same
  for SDAT, occurs in this file only (`sdatTotal_serS_gen`).  Both are `datTotal t`, whose lemmas serve both.  The
  parser loop adds up exactly the FDAT payloads before the first FEND (`nLoop_data_sum`), re-cutting keeps the
  total, and of a serialised entry only the data chunks and `extra` contribute (`fdatTotal_serN_gen`).  `builtMd`
  is the builder's bookkeeping of `raw_file_size`; `compressedSize_eq`: the stored size depends on the concatenated
  data only (for `C03R.sameN_content`).
-/
namespace Pna
open ChunkType

def fdatTotal (cs : List Chunk) : Nat :=
  ((cs.filter (fun c => c.ty = ChunkType.FDAT)).map (fun c => c.data.length)).sum

def sdatTotal (cs : List Chunk) : Nat :=
  ((cs.filter (fun c => c.ty = ChunkType.SDAT)).map (fun c => c.data.length)).sum

def datTotal (t : ChunkType) (cs : List Chunk) : Nat :=
  ((cs.filter (fun c => c.ty = t)).map (fun c => c.data.length)).sum

theorem fdatTotal_eq (cs : List Chunk) : fdatTotal cs = datTotal FDAT cs := rfl
theorem sdatTotal_eq (cs : List Chunk) : sdatTotal cs = datTotal SDAT cs := rfl

theorem datTotal_append (t : ChunkType) (a b : List Chunk) : datTotal t (a ++ b) = datTotal t a + datTotal t b := by
  simp only [datTotal, List.filter_append, List.map_append, List.sum_append]

theorem datTotal_cons_pos {t : ChunkType} {c : Chunk} (cs : List Chunk) (h : c.ty = t) :
    datTotal t (c :: cs) = c.data.length + datTotal t cs := by
  simp only [datTotal, List.filter_cons, h, decide_true, ite_true, List.map_cons, List.sum_cons]

theorem datTotal_cons_neg {t : ChunkType} {c : Chunk} (cs : List Chunk) (h : c.ty ≠ t) :
    datTotal t (c :: cs) = datTotal t cs := by
  simp only [datTotal, List.filter_cons, h, decide_false, Bool.false_eq_true, ite_false]

theorem datTotal_of_none (t : ChunkType) (cs : List Chunk) (h : ∀ c ∈ cs, c.ty ≠ t) : datTotal t cs = 0 := by
  rw [datTotal, List.filter_eq_nil_iff.mpr fun c hc hd => h c hc (of_decide_eq_true hd)]
  rfl

theorem datTotal_optChunk {t u : ChunkType} (o : Option Bytes) (h : u ≠ t) : datTotal t (optChunk u o) = 0 :=
  datTotal_of_none _ _ (fun _ hc => (mem_optChunk hc) ▸ h)

theorem datTotal_map (t : ChunkType) (ds : List Bytes) :
    datTotal t (ds.map fun u => (⟨t, u⟩ : Chunk)) = (ds.map List.length).sum := by
  induction ds with
  | nil => rfl
  | cons d ds ih =>
    rw [List.map_cons, datTotal_cons_pos (t := t) _ rfl, ih, List.map_cons, List.sum_cons]

theorem nLoop_data_sum {cs : List Chunk} {a b : NAcc} (h : nLoop a cs = .ok b) :
    (b.data.map List.length).sum
      = (a.data.map List.length).sum + fdatTotal (cs.takeWhile (fun c => c.ty ≠ ChunkType.FEND)) := by
  induction cs generalizing a with
  | nil => simp only [nLoop, Outcome.ok.injEq] at h; subst h; simp [fdatTotal]
  | cons c cs ih =>
    rcases nLoop_cons_ok h with ⟨hs, rfl⟩ | ⟨a', hs, hl⟩
    · have := nStep_none hs
      simp [this, fdatTotal]
    · have hne := (nStep_some hs).1
      rw [ih hl, nStep_data hs, List.takeWhile_cons]
      simp only [fdatTotal_eq]
      simp only [hne, ne_eq, not_false_eq_true, decide_true, ite_true]
      by_cases hf : c.ty = FDAT
      · rw [if_pos hf, datTotal_cons_pos _ hf, List.map_cons, List.sum_cons]; omega
      · rw [if_neg hf, datTotal_cons_neg _ hf]

theorem recut_compressedSize (e : NormalEntry) : e.recut.compressedSize = e.compressedSize :=
  sum_length_flatMap_rustChunks e.data

theorem fdatTotal_serN_gen (e : NormalEntry) :
    fdatTotal (serN e) = fdatTotal e.extra + e.compressedSize := by
  unfold serN
  rw [← List.map_flatMap]
  simp only [fdatTotal_eq, datTotal_append]
  rw [datTotal_map, sum_length_flatMap_rustChunks,
    datTotal_optChunk _ (by decide), datTotal_optChunk _ (by decide), datTotal_optChunk _ (by decide),
    datTotal_optChunk _ (by decide), datTotal_optChunk _ (by decide), datTotal_optChunk _ (by decide),
    datTotal_cons_neg _ (show FHED ≠ FDAT by decide), datTotal_cons_neg _ (show FEND ≠ FDAT by decide),
    datTotal_of_none FDAT (e.xattrs.map fun x => (⟨xATR, encXATR x⟩ : Chunk))
      (by intro c hc; obtain ⟨x, _, rfl⟩ := List.mem_map.mp hc; exact (by decide : xATR ≠ FDAT))]
  show _ = _ + (e.data.map List.length).sum
  simp only [datTotal, List.filter_nil, List.map_nil, List.sum_nil]
  omega

/-- `hx` holds of a well-formed entry (`NormalEntry.WF.extra_ne`); without it the statement is false, see
    Props/C18Entry.lean. -/
theorem fdatTotal_serN (e : NormalEntry) (hx : ∀ c ∈ e.extra, c.ty ≠ FDAT) :
    fdatTotal (serN e) = e.compressedSize := by
  rw [fdatTotal_serN_gen, fdatTotal_eq, datTotal_of_none _ _ hx, Nat.zero_add]

theorem sdatTotal_serS_gen (s : SolidEntry) :
    sdatTotal (serS s) = sdatTotal s.extra + (s.data.map List.length).sum := by
  unfold serS
  simp only [sdatTotal_eq, datTotal_append]
  rw [datTotal_map, datTotal_optChunk _ (by decide), datTotal_cons_neg _ (show SHED ≠ SDAT by decide),
    datTotal_cons_neg _ (show SEND ≠ SDAT by decide)]
  simp [datTotal]

/-- `EntryBuilder::build`: `raw_file_size = Some(bytes accepted by the write calls)` for `DataKind::File`
    (kind code 0) with `store_file_size` on, `None` otherwise. -/
def builtMd (storeSize : Bool) (kind : Nat) (md : Metadata) (writes : List Bytes) : Metadata :=
  { md with rawSize := if storeSize ∧ kind = 0 then some (writes.map List.length).sum else none }

theorem builtMd_rawSize_file (md : Metadata) (writes : List Bytes) :
    (builtMd true 0 md writes).rawSize = some writes.flatten.length := by
  simp [builtMd, List.length_flatten]

theorem builtMd_rawSize_none (storeSize : Bool) (kind : Nat) (md : Metadata) (writes : List Bytes)
    (h : storeSize = false ∨ kind ≠ 0) : (builtMd storeSize kind md writes).rawSize = none := by
  unfold builtMd
  rcases h with h | h
  · simp [h]
  · simp [h]

theorem builtMd_others (storeSize : Bool) (kind : Nat) (md : Metadata) (writes : List Bytes) :
    (builtMd storeSize kind md writes).created = md.created ∧
    (builtMd storeSize kind md writes).modified = md.modified ∧
    (builtMd storeSize kind md writes).accessed = md.accessed ∧
    (builtMd storeSize kind md writes).permission = md.permission := ⟨rfl, rfl, rfl, rfl⟩

theorem compressedSize_eq (e : NormalEntry) : e.compressedSize = e.data.flatten.length := by
  rw [NormalEntry.compressedSize, List.length_flatten]

end Pna
