import PnaVerif.Lemmas.ComposeTree
import PnaVerif.Lemmas.ConfinedExtract
/-!
# C02 composition: at a fresh destination the file-system primitives SUCCEED, keep what existed (`Preserved`),
only let the file system grow (`Grows`) and add objects only where expected (`NewIn`); the checks of
`extract_entry` pass there, and one entry is extracted
-/
namespace Pna.Compose
open Pna Pna.Fs Pna.Cli Pna.Confined

/-- from `fs` to `fs'` objects appear only at paths in `S` (that none disappears is `Preserved`) -/
def NewIn (fs fs' : Fs) (S : Path → Prop) : Prop := ∀ p, fs'.lookup p ≠ none → fs.lookup p ≠ none ∨ S p

theorem NewIn.refl (fs : Fs) (S : Path → Prop) : NewIn fs fs S := fun _ h => Or.inl h

theorem NewIn.trans {a b c : Fs} {S T U : Path → Prop} (h1 : NewIn a b S) (h2 : NewIn b c T)
    (hS : ∀ p, S p → U p) (hT : ∀ p, T p → U p) : NewIn a c U := by
  intro p hp
  rcases h2 p hp with h | h
  · rcases h1 p h with h' | h'
    · exact Or.inl h'
    · exact Or.inr (hS p h')
  · exact Or.inr (hT p h)

theorem newIn_setNode (fs : Fs) (p : Path) (n : Node) : NewIn fs (fs.setNode p n) (· = p) := by
  intro q hq
  by_cases e : q = p
  · exact Or.inr e
  · rw [lookup_setNode_ne _ _ _ _ e] at hq; exact Or.inl hq

/-- along `cs` below `cur` every place is free or a directory: then `create_dir_all` succeeds
    (`createDirAll_go_ok`) and the lexical walk meets no link (`FreeOrDir.lexOk`) -/
def FreeOrDir (fs : Fs) (cur : Path) (cs : List Bytes) : Prop :=
  ∀ q, q ≠ [] → q <+: cs → fs.lookup (cur ++ q) = none ∨ fs.lookup (cur ++ q) = some .dir

theorem FreeOrDir.prefix {fs : Fs} {cur : Path} {cs cs' : List Bytes} (h : FreeOrDir fs cur cs) (hp : cs' <+: cs) :
    FreeOrDir fs cur cs' := fun q hq hqc => h q hq (hqc.trans hp)

theorem FreeOrDir.lexOk {fs : Fs} {O : Path} {cs : List Bytes} (h : FreeOrDir fs O cs) (hdd : [dot, dot] ∉ cs) :
    LexOk fs O [] cs := by
  refine lexOk_of_prefixes cs [] hdd (fun q hq hqc t ht => ?_)
  rw [List.nil_append] at ht
  rcases h q hq hqc with h1 | h1 <;> rw [h1] at ht <;> cases ht

/-- the places the extraction of an entry with components `cs` may fill (the `S` of `NewIn`): `cur` extended by a
    nonempty prefix of `cs` -/
def Below (cur : Path) (cs : List Bytes) (p : Path) : Prop := ∃ q, q ≠ [] ∧ q <+: cs ∧ p = cur ++ q

theorem createDirAll_go_ok : ∀ (cs : List Bytes) (fuel : Nat) (fs : Fs) (cur : Path), [dot, dot] ∉ cs →
    FreeOrDir fs cur cs → cs.length < fuel →
    ∃ fs', Fs.createDirAll.go fs cur fuel cs = .ok fs' ∧ NewIn fs fs' (Below cur cs) := by
  intro cs
  induction cs with
  | nil =>
    intro fuel fs cur _ _ hf
    obtain ⟨f, rfl⟩ : ∃ f, fuel = f + 1 := ⟨fuel - 1, by simp at hf; omega⟩
    exact ⟨fs, by simp [Fs.createDirAll.go], NewIn.refl _ _⟩
  | cons c r ih =>
    intro fuel fs cur hdd hfree hf
    obtain ⟨f, rfl⟩ : ∃ f, fuel = f + 1 := ⟨fuel - 1, by simp at hf; omega⟩
    simp only [List.mem_cons, not_or] at hdd
    have hcons : ∀ q : List Bytes, cur ++ [c] ++ q = cur ++ c :: q := by intro q; simp
    -- `fs0` is the state after the first component: `fs` with `cur ++ [c]` created if it was missing
    have key : ∀ fs0 : Fs, NewIn fs fs0 (· = cur ++ [c]) →
        (∀ q, q ≠ [] → fs0.lookup (cur ++ [c] ++ q) = fs.lookup (cur ++ [c] ++ q)) →
        ∃ fs', Fs.createDirAll.go fs0 (cur ++ [c]) f r = .ok fs' ∧ NewIn fs fs' (Below cur (c :: r)) := by
      intro fs0 hn0 hsame
      obtain ⟨fs', hgo, hn2⟩ := ih f fs0 (cur ++ [c]) hdd.2 (fun q hq hqr => by
        rw [hsame q hq, hcons]
        exact hfree (c :: q) (by simp) ((List.prefix_cons_inj c).2 hqr)) (by simp at hf; omega)
      refine ⟨fs', hgo, NewIn.trans hn0 hn2 (fun p hp => ⟨[c], by simp, ⟨r, rfl⟩, hp⟩) ?_⟩
      rintro p ⟨q, _, hqr, hp⟩
      exact ⟨c :: q, by simp, (List.prefix_cons_inj c).2 hqr, by rw [hp, hcons]⟩
    simp only [Fs.createDirAll.go, if_neg (Ne.symm hdd.1)]
    rcases hfree [c] (by simp) ⟨r, rfl⟩ with hnone | hdir
    · rw [hnone]
      exact key _ (newIn_setNode _ _ _) (fun q hq => lookup_setNode_ne _ _ _ _ (by simpa using hq))
    · rw [hdir]
      exact key fs (NewIn.refl _ _) (fun _ _ => rfl)

theorem createDirAll_ok {fs : Fs} {cwd : Path} {d s : Bytes} {cs : List Bytes} (sp : Spells d s cs)
    (hs : Sane fs (cwd ++ [d])) (hdd : [dot, dot] ∉ cs) (hfree : FreeOrDir fs (cwd ++ [d]) cs)
    (hfuel : cs.length + 2 ≤ fuelFor fs) :
    ∃ fs', fs.createDirAll cwd s = .ok fs' ∧ Sane fs' (cwd ++ [d]) ∧ MkDirs fs fs' ∧
      (∀ q, q <+: cs → fs'.lookup (cwd ++ [d] ++ q) = some .dir) ∧ NewIn fs fs' (Below (cwd ++ [d]) cs) := by
  obtain ⟨fs', hgo, hn⟩ := createDirAll_go_ok cs (39 + 8 * fs.nodes.length) fs (cwd ++ [d]) hdd hfree
    (by rw [fuelFor_succ] at hfuel; omega)
  have hc : fs.createDirAll cwd s = .ok fs' := by rw [sp.createDirAll hs]; exact hgo
  -- the end of the walk is a directory by the confinement lemma, what lies above it because `fs'` is sane
  obtain ⟨s', _, _, htop⟩ := createDirAll_confined sp hs (hfree.lexOk hdd) hc
  rw [lexEnd_init hdd] at htop
  refine ⟨fs', hc, s', createDirAll_go_mkDirs _ _ _ _ _ hgo, fun q hq => ?_, hn⟩
  by_cases e : q = cs
  · rw [e]; exact htop
  · exact anc_dir s'.closed (by rw [htop]; rfl) ((List.prefix_append_right_inj _).2 hq)
      (fun e' => e (List.append_cancel_left e'))

theorem dropLast_dest (O : Path) (init : List Bytes) (last : Bytes) :
    (O ++ (init ++ [last])).dropLast = O ++ init := by
  rw [← List.append_assoc, List.dropLast_concat]

section
variable {fs : Fs} {cwd : Path} {d s : Bytes} {init : List Bytes} {last : Bytes}
  (pc : PathCtx d s init last) (hs : Sane fs (cwd ++ [d])) (hpar : fs.lookup (cwd ++ [d] ++ init) = some .dir)
  (hnone : fs.lookup (cwd ++ [d] ++ (init ++ [last])) = none)
include pc hs hpar hnone

theorem createFile_ok (content : Bytes) :
    fs.createFile cwd s content = .ok (fs.withNewFile (cwd ++ [d] ++ (init ++ [last])) content) := by
  refine createFile_ok_iff.2 ⟨_, ?_, Or.inr ⟨hnone, by rw [dropLast_dest]; exact hpar, rfl⟩⟩
  rw [pc.sp.resolve hs, resolve_below hs.closed true (nodd_snoc pc.hdd pc.hlast) (by rw [List.dropLast_concat]; exact hpar)
    (fun _ t ht => by rw [hnone] at ht; cases ht)]

theorem symlink_ok (target : Bytes) :
    fs.symlink cwd target s = .ok (fs.setNode (cwd ++ [d] ++ (init ++ [last])) (.link target)) := by
  refine symlink_ok_iff.2 ⟨_, ?_, hnone, by rw [dropLast_dest]; exact hpar, rfl⟩
  rw [pc.sp.entryPath pc.hlast hs, resolve_below hs.closed true pc.hdd (hs.parent (by rw [hpar]; rfl))
    (fun _ t ht => by rw [hpar] at ht; cases ht)]
  simp

end

/-- the hypothesis of `lexOk_of_prefixes` -/
def NoLinkAlong (fs : Fs) (O : Path) (w cs : List Bytes) : Prop :=
  ∀ q, q ≠ [] → q <+: cs → NotLink fs (O ++ (w ++ q))

theorem NoLinkAlong.prefix {fs : Fs} {O : Path} {w cs cs' : List Bytes} (h : NoLinkAlong fs O w cs)
    (hp : cs' <+: cs) : NoLinkAlong fs O w cs' := fun q hq hqc => h q hq (hqc.trans hp)

/-- the strings of `extract_entry` for a clean name with components `init ++ [last]` -/
theorem nameFacts {outDir d name : Bytes} {init : List Bytes} {last : Bytes} (ho : OutDir outDir d)
    (hc : Clean name) (hcs : splitSlash name = init ++ [last]) :
    isAbs ((parentP name).getD []) = false ∧ comps ((parentP name).getD []) = init ∧
    PathCtx d (joinP outDir name) init last ∧
    ∃ par, parentP (joinP outDir name) = some par ∧ Spells d par init := by
  have hrel := hc.rel
  have hp := parentP_rel name hrel
  have hdd := hc.nodd
  rw [hcs] at hdd
  have hcp : comps ((parentP name).getD []) = init := by
    rw [comps_eq, hp.2, hc.ncomps, hcs, List.dropLast_concat]
    apply List.filter_eq_self.2
    intro c hcm
    have := hc.norm c (hcs ▸ List.mem_append_left _ hcm)
    simp [this.2.1]
  have hj := ho.comps_join name hrel
  rw [hc.comps, hcs] at hj
  have hnn : ncomps name ≠ [] := by rw [hc.ncomps]; exact splitSlash_ne_nil name
  obtain ⟨par, h1, h2⟩ := ho.parent_join name hrel hnn
  rw [hcp] at h2
  exact ⟨hp.1, hcp, ⟨hj, fun e => hdd (by simp [e]), fun hm => hdd (List.mem_append_left _ hm)⟩, par, h1, h2⟩

/-- the state in which `extract_entry` without `--overwrite` succeeds on an entry with components `cs`
    (`extractEntry_fresh`); it holds at every entry of what `create` archived, the output directory being empty at
    the start (`fresh_of_inv`) -/
structure Fresh (fs : Fs) (O : Path) (cs : List Bytes) : Prop where
  anc : FreeOrDir fs O cs
  free : fs.lookup (O ++ cs) = none

theorem extractEntry_fresh {fs : Fs} {cwd : Path} {outDir d : Bytes} (ho : OutDir outDir d)
    (hs : Sane fs (cwd ++ [d])) (n : TNode) (hc : Clean n.path) (hk : n.kind ≤ 2)
    (hfr : Fresh fs (cwd ++ [d]) (pcs n)) (hfuel : (pcs n).length + 2 ≤ fuelFor fs) :
    ∃ fs', extractEntry false cwd outDir fs (toX n) = (fs', none) ∧ Preserved fs fs' ∧
      Grows fs fs' ∧ nodeIs fs' (cwd ++ [d] ++ pcs n) n.kind n.content ∧ NewIn fs fs' (Below (cwd ++ [d]) (pcs n)) := by
  obtain ⟨init, last, hcs⟩ : ∃ init last, pcs n = init ++ [last] :=
    ⟨_, _, (List.dropLast_concat_getLast (splitSlash_ne_nil n.path)).symm⟩
  obtain ⟨hrp, hcp, pc, par, hpar, hpp⟩ := nameFacts ho hc hcs
  have hddc := nodd_snoc pc.hdd pc.hlast
  rw [hcs] at hfr hfuel ⊢
  have hfi : FreeOrDir fs (cwd ++ [d]) init := hfr.anc.prefix (List.prefix_append _ _)
  have hli := hfi.lexOk pc.hdd
  -- the two guards pass
  have hconf : confined fs cwd outDir ((parentP n.path).getD []) = true :=
    (confined_iff ho hs).2 ⟨hrp, by rw [hcp]; exact hli⟩
  have hlink : isLinkAt fs cwd (joinP outDir n.path) = false :=
    (isLinkAt_iff pc.sp pc.hlast hs hli pc.hdd).2 (fun t ht => by rw [hfr.free] at ht; cases ht)
  have hex : fs.existsP cwd (joinP outDir n.path) = false := by
    unfold Fs.existsP
    split
    · rename_i p hr
      rw [resolve_confined pc.sp hs (hfr.anc.lexOk hddc) hr, lexEnd_init hddc, hfr.free]
      rfl
    · rfl
  -- `create_dir_all(parent)`: afterwards the parent is a directory and the destination still free.  The `+ 2` of
  -- `hfuel`: a walk spends one unit of `fuelFor` on the step into `d` (`fuelFor_succ`), and `createDirAll.go` wants
  -- more fuel than it has components to walk (all of `pcs n` for a directory entry)
  obtain ⟨fs1, hcd, s1, m1, hd1, hn1⟩ := createDirAll_ok hpp hs pc.hdd hfi (by simp at hfuel; omega)
  have hpar1 := hd1 init (List.prefix_refl _)
  have h1none : fs1.lookup (cwd ++ [d] ++ (init ++ [last])) = none := by
    cases hl : fs1.lookup (cwd ++ [d] ++ (init ++ [last])) with
    | none => rfl
    | some x =>
      rcases hn1 _ (by rw [hl]; simp) with h | ⟨q, _, hq, he⟩
      · exact absurd hfr.free h
      · have := congrArg List.length (List.append_cancel_left he)
        have := hq.length_le
        simp at *; omega
  have hnew1 : ∀ p, Below (cwd ++ [d]) init p → Below (cwd ++ [d]) (init ++ [last]) p :=
    fun p ⟨q, h1, h2, h3⟩ => ⟨q, h1, h2.trans (List.prefix_append _ _), h3⟩
  have hnew2 : ∀ p, p = cwd ++ [d] ++ (init ++ [last]) → Below (cwd ++ [d]) (init ++ [last]) p :=
    fun p h => ⟨init ++ [last], by simp, List.prefix_refl _, h⟩
  have hx : toX n = ⟨n.path, n.kind, if n.kind = 1 then [] else n.content⟩ := by unfold toX; rw [hc.san]
  rw [hx, extractEntry_pass (e := ⟨n.path, n.kind, _⟩) hconf hex hlink, mkParent_ok hpar hcd]
  have hk3 : n.kind = 0 ∨ n.kind = 1 ∨ n.kind = 2 := by omega
  rcases hk3 with h | h | h <;>
    simp only [body, h, Bool.false_eq_true, if_false, Bool.false_and, step_id, Nat.reduceEqDiff]
  · -- kind 0: `File::create`
    refine ⟨_, step_ok _ (createFile_ok pc s1 hpar1 h1none n.content),
      m1.preserved.1.trans (newFile_preserved fs1 _ n.content
        (fun q i hq => s1.fresh _ (lookup_mem (lookup_file_ne_nil hq) hq) i rfl) h1none),
      m1.grows.trans (grows_withNewFile _ h1none),
      ⟨fs1.nextIno, ?_, content_setContent_eq _ _ _⟩,
      hn1.trans (fun q hq => newIn_setNode fs1 _ _ q hq) hnew1 hnew2⟩
    rw [lookup_withNewFile]
    exact lookup_setNode_eq _ _ _ (lookup_none_ne_nil h1none)
  · -- kind 1: `create_dir_all`
    have hfree1 : FreeOrDir fs1 (cwd ++ [d]) (init ++ [last]) := by
      intro q _ hq
      rcases List.prefix_concat_iff.1 hq with rfl | hq
      · exact Or.inl h1none
      · exact Or.inr (hd1 q hq)
    -- the fuel side-goal is what `Grows.len` is for: `hfuel` bounds by `fuelFor fs`, this walk runs in `fs1`, and
    -- `fuelFor` grows with the node count
    obtain ⟨fs2, hcd2, _, m2, hd2, hn2⟩ := createDirAll_ok pc.sp s1 hddc hfree1
      (by have := m1.grows.len; unfold fuelFor at hfuel ⊢; simp at hfuel ⊢; omega)
    exact ⟨fs2, step_ok _ hcd2, m1.preserved.1.trans m2.preserved.1, m1.grows.trans m2.grows,
      hd2 _ (List.prefix_refl _), hn1.trans hn2 hnew1 (fun _ h => h)⟩
  · -- kind 2: `symlink`
    exact ⟨_, step_ok _ (symlink_ok pc s1 hpar1 h1none n.content),
      m1.preserved.1.trans (setNode_fresh_preserved fs1 _ _ h1none),
      m1.grows.trans (grows_setNode h1none (fun i hi => by cases hi)),
      lookup_setNode_eq _ _ _ (lookup_none_ne_nil h1none), hn1.trans (newIn_setNode fs1 _ _) hnew1 hnew2⟩

end Pna.Compose
