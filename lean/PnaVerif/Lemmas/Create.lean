import PnaVerif.Model.Cli.Create
/-! What `pna create` archives and what `pna extract` is expected to leave (`Model/Cli/Create.lean`), member by member:
    `archived`, `impliedDirs`, `expectedTree`, and `ancestors` in terms of component prefixes. -/
namespace Pna.C02
open Pna Pna.Cli

theorem restoredNode_path (o : CXOpts) (n : TNode) : (restoredNode o n).path = sanitize n.path := rfl

theorem mem_archived {o : CXOpts} {t : List TNode} {n : TNode} :
    n ∈ archived o t ↔ n ∈ t ∧ (o.keepDir = true ∨ n.kind ≠ 1) := by
  unfold archived
  simp only [List.mem_filter, Bool.or_eq_true, bne_iff_ne, ne_eq]

theorem mem_impliedDirs (xs : List XNode) (x : XNode) :
    x ∈ impliedDirs xs ↔ x = ⟨x.path, 1, [], none, none⟩ ∧ (∃ y ∈ xs, x.path ∈ ancestors y.path) ∧
      ∀ y ∈ xs, y.path ≠ x.path := by
  unfold impliedDirs
  simp only [List.mem_map, List.mem_filter, List.mem_eraseDups, List.mem_flatMap, Bool.not_eq_true',
    List.any_eq_false, beq_iff_eq]
  constructor
  · rintro ⟨a, ⟨hy, hno⟩, rfl⟩
    exact ⟨rfl, hy, hno⟩
  · rintro ⟨hx, hy, hno⟩
    exact ⟨x.path, ⟨hy, hno⟩, hx.symm⟩

theorem restored_mem (o : CXOpts) (t : List TNode) (n : TNode) (h : n ∈ t) (hk : o.keepDir = true ∨ n.kind ≠ 1) :
    restoredNode o n ∈ expectedTree o t :=
  List.mem_append_left _ (List.mem_map.mpr ⟨n, mem_archived.2 ⟨h, hk⟩, rfl⟩)

end Pna.C02

namespace Pna.Compose
open Pna Pna.Cli

def PProper (q cs : List Bytes) : Prop := q ≠ [] ∧ q <+: cs ∧ q ≠ cs

theorem mem_ancestors (p a : Bytes) :
    a ∈ ancestors p ↔ ∃ q, PProper q (splitSlash p) ∧ a = joinSlash q := by
  unfold ancestors
  simp only [List.mem_map, List.mem_range]
  constructor
  · rintro ⟨i, hi, rfl⟩
    refine ⟨(splitSlash p).take (i + 1), ⟨fun e => ?_, List.take_prefix _ _, fun e => ?_⟩, rfl⟩
    all_goals
      have := congrArg List.length e
      simp only [List.length_take, List.length_nil] at this
      omega
  · rintro ⟨q, hq, rfl⟩
    have hlt : q.length < (splitSlash p).length :=
      Nat.lt_of_le_of_ne hq.2.1.length_le fun e => hq.2.2 (hq.2.1.eq_of_length e)
    have hpos : 0 < q.length := List.length_pos_iff.2 hq.1
    refine ⟨q.length - 1, by omega, ?_⟩
    have : q.length - 1 + 1 = q.length := by omega
    rw [this, ← List.prefix_iff_eq_take.1 hq.2.1]

end Pna.Compose
