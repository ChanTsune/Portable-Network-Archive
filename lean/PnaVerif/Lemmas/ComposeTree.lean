import PnaVerif.Lemmas.Create
import PnaVerif.Lemmas.ConfinedInvariant
import PnaVerif.Lemmas.ConfinedStr
/-!
The vocabulary of C02 at the model level (`create` then `extract` gives `expectedTree`): the entries `create`
writes (`entriesOf`), well-formed source trees (`TreeOK`: what a walk that does not follow links yields), the
empty output directory (`EmptyOut`), an expected object found below it (`objAt`), the fuel bound `DepthOK`.
Then clean paths (`sanitize p = p`, `p ≠ []`) as component lists and `TreeOK` in those terms (`ancestors` are
the proper prefixes: `mem_ancestors` in `Lemmas/Create.lean`).
-/
namespace Pna.Compose
open Pna Pna.Fs Pna.Cli Pna.Confined

/-- the archive entry `create` writes for a source node -/
def toX (n : TNode) : XEntry := ⟨sanitize n.path, n.kind, if n.kind = 1 then [] else n.content⟩

def entriesOf (o : CXOpts) (t : List TNode) : List XEntry := (archived o t).map toX

/-- walk order: parents before children -/
def ParentsFirst (t : List TNode) : Prop :=
  ∀ i (h : i < t.length), ∀ a ∈ ancestors (t[i]'h).path, ∃ m ∈ t.take i, m.kind = 1 ∧ m.path = a

instance (t : List TNode) : Decidable (ParentsFirst t) := by unfold ParentsFirst; infer_instance

/-- a well-formed source tree; by the third conjunct nothing lies beneath a file or a symbolic link -/
def TreeOK (t : List TNode) : Prop :=
  (∀ n ∈ t, n.kind ≤ 2 ∧ n.path ≠ [] ∧ sanitize n.path = n.path) ∧
  (t.map (·.path)).Nodup ∧
  (∀ n ∈ t, ∀ a ∈ ancestors n.path, ∃ m ∈ t, m.kind = 1 ∧ m.path = a) ∧
  ParentsFirst t

instance (t : List TNode) : Decidable (TreeOK t) := by unfold TreeOK; infer_instance

/-- walk order already implies that ancestors are directory nodes (a cheaper way to check `TreeOK`) -/
theorem treeOK_of_parentsFirst {t : List TNode}
    (h1 : ∀ n ∈ t, n.kind ≤ 2 ∧ n.path ≠ [] ∧ sanitize n.path = n.path)
    (h2 : (t.map (·.path)).Nodup) (h4 : ParentsFirst t) : TreeOK t := by
  refine ⟨h1, h2, fun n hn a ha => ?_, h4⟩
  obtain ⟨i, hi, rfl⟩ := List.getElem_of_mem hn
  obtain ⟨m, hm, hk⟩ := h4 i hi a ha
  exact ⟨m, List.mem_of_mem_take hm, hk⟩

def EmptyOut (fs : Fs) (O : Path) : Prop := Sane fs O ∧ ∀ n ∈ fs.nodes, Inside O n.1 → n.1 = O

/-- Boolean form of `EmptyOut` for concrete file systems -/
def emptyOutB (fs : Fs) (O : Path) : Bool :=
  saneB fs O && fs.nodes.all (fun n => !(O.isPrefixOf n.1) || n.1 == O)

def nodeIs (fs : Fs) (p : Path) (kind : Nat) (content : Bytes) : Prop :=
  match kind with
  | 0 => ∃ ino, fs.lookup p = some (.file ino) ∧ fs.content ino = content
  | 1 => fs.lookup p = some .dir
  | 2 => fs.lookup p = some (.link content)
  | _ => False

def objAt (fs : Fs) (O : Path) (x : XNode) : Prop := nodeIs fs (O ++ splitSlash x.path) x.kind x.content

/-- **model limit.**  The model's path walks carry a fuel of `40 + 8·#nodes` (`fuelFor`, there to
    model ELOOP); a destination deeper than that makes the model's `create_dir_all` report `loop`.
    The composition theorems therefore assume every node's depth is within the initial fuel
    (needed: `C02C.compose_depth_needed`). -/
def DepthOK (fs : Fs) (t : List TNode) : Prop := ∀ n ∈ t, (splitSlash n.path).length + 2 ≤ fuelFor fs

instance (fs : Fs) (t : List TNode) : Decidable (DepthOK fs t) := by unfold DepthOK; infer_instance

/-- a `Normal` path component -/
def NormC (c : Bytes) : Prop := c ≠ [] ∧ c ≠ [dot] ∧ c ≠ [dot, dot] ∧ slash ∉ c

structure Clean (p : Bytes) : Prop where
  ne : p ≠ []
  san : sanitize p = p

theorem Clean.norm {p : Bytes} (h : Clean p) : ∀ c ∈ splitSlash p, NormC c := by
  rcases sanitize_components p with he | ⟨_, hall⟩
  · rw [h.san] at he; exact absurd he h.ne
  · rw [h.san] at hall; exact hall

theorem Clean.filter {p : Bytes} (h : Clean p) : (splitSlash p).filter isNormalComp = splitSlash p := by
  apply List.filter_eq_self.2
  intro c hc
  have := h.norm c hc
  simp [isNormalComp, this.1, this.2.1, this.2.2.1]

theorem Clean.join {p : Bytes} (h : Clean p) : joinSlash (splitSlash p) = p := by
  have := h.san
  unfold sanitize at this
  rw [h.filter] at this
  exact this

theorem Clean.comps {p : Bytes} (h : Clean p) : comps p = splitSlash p := comps_of_normal h.norm

theorem Clean.ncomps {p : Bytes} (h : Clean p) : ncomps p = splitSlash p := by
  unfold Pna.Confined.ncomps
  apply List.filter_eq_self.2
  intro c hc
  have := h.norm c hc
  simp [this.1]

theorem Clean.rel {p : Bytes} (h : Clean p) : isAbs p = false := by
  have := sanitize_no_root p
  rw [h.san] at this
  simpa [isAbs] using this

theorem Clean.nodd {p : Bytes} (h : Clean p) : [dot, dot] ∉ splitSlash p :=
  fun hm => (h.norm _ hm).2.2.1 rfl

theorem Clean.split_ne {p : Bytes} (_h : Clean p) : splitSlash p ≠ [] := splitSlash_ne_nil p

theorem NormC.goodC {c : Bytes} (h : NormC c) : GoodC c := ⟨h.1, h.2.1, h.2.2.2⟩

theorem PProper.split_join {q : List Bytes} {p : Bytes} (h : PProper q (splitSlash p)) (hc : Clean p) :
    splitSlash (joinSlash q) = q :=
  splitSlash_joinSlash q h.1 fun c hm => (hc.norm c (h.2.1.subset hm)).2.2.2

abbrev pcs (n : TNode) : List Bytes := splitSlash n.path

theorem TreeOK.clean {t : List TNode} (h : TreeOK t) {n : TNode} (hn : n ∈ t) : Clean n.path :=
  ⟨(h.1 n hn).2.1, (h.1 n hn).2.2⟩

theorem TreeOK.kind {t : List TNode} (h : TreeOK t) {n : TNode} (hn : n ∈ t) : n.kind ≤ 2 := (h.1 n hn).1

theorem TreeOK.path_inj {t : List TNode} (h : TreeOK t) {n m : TNode} (hn : n ∈ t) (hm : m ∈ t)
    (e : n.path = m.path) : n = m := by
  have hp : t.Pairwise (fun a b => a.path ≠ b.path) := List.pairwise_map.1 h.2.1
  exact List.Pairwise.forall_of_forall_of_flip (R := fun a b => a.path = b.path → a = b) (fun _ _ _ => rfl)
    (hp.imp fun h e => absurd e h) (hp.imp fun h e => absurd e.symm h) hn hm e

theorem TreeOK.pcs_inj {t : List TNode} (h : TreeOK t) {n m : TNode} (hn : n ∈ t) (hm : m ∈ t)
    (e : pcs n = pcs m) : n = m := by
  apply h.path_inj hn hm
  rw [← (h.clean hn).join, ← (h.clean hm).join]
  exact congrArg joinSlash e

theorem TreeOK.anc_dir {t : List TNode} (h : TreeOK t) {n : TNode} (hn : n ∈ t) {q : List Bytes}
    (hq : PProper q (pcs n)) : ∃ m ∈ t, m.kind = 1 ∧ pcs m = q := by
  obtain ⟨m, hm, hk, hp⟩ := h.2.2.1 n hn (joinSlash q) ((mem_ancestors _ _).2 ⟨q, hq, rfl⟩)
  exact ⟨m, hm, hk, by rw [pcs, hp, hq.split_join (h.clean hn)]⟩

theorem TreeOK.split {t pre post : List TNode} {n : TNode} (h : TreeOK t) (e : t = pre ++ n :: post) :
    (∀ m ∈ pre, m.path ≠ n.path) ∧
    (∀ q, PProper q (pcs n) → ∃ m ∈ pre, m.kind = 1 ∧ pcs m = q) := by
  subst e
  have hn : n ∈ pre ++ n :: post := by simp
  constructor
  · intro m hm e
    have hnd := h.2.1
    rw [List.map_append, List.map_cons, List.nodup_append] at hnd
    exact hnd.2.2 m.path (List.mem_map.2 ⟨m, hm, rfl⟩) n.path (by simp) e
  · intro q hq
    have hlen : pre.length < (pre ++ n :: post).length := by simp
    have hget : (pre ++ n :: post)[pre.length]'hlen = n := by simp
    have := h.2.2.2 pre.length hlen (joinSlash q) (by rw [hget]; exact (mem_ancestors _ _).2 ⟨q, hq, rfl⟩)
    rw [List.take_left'  rfl] at this
    obtain ⟨m, hm, hk, hp⟩ := this
    exact ⟨m, hm, hk, by rw [pcs, hp, hq.split_join (h.clean hn)]⟩

theorem emptyOut_of_B {fs : Fs} {O : Path} (h : emptyOutB fs O = true) : EmptyOut fs O := by
  unfold emptyOutB at h
  rw [Bool.and_eq_true] at h
  refine ⟨sane_of_saneB h.1, fun n hn hin => ?_⟩
  have := List.all_eq_true.1 h.2 n hn
  have hp : O.isPrefixOf n.1 = true := List.isPrefixOf_iff_prefix.2 hin
  simpa [hp] using this

theorem emptyOut_none {fs : Fs} {O : Path} (h : EmptyOut fs O) (w : List Bytes) (hw : w ≠ []) :
    fs.lookup (O ++ w) = none := by
  cases hl : fs.lookup (O ++ w) with
  | none => rfl
  | some x =>
    have hm := lookup_mem (by simp [hw]) hl
    exact absurd (h.2 _ hm (below_inside O w)) (below_ne O w hw)

theorem nodeIs_isSome {fs : Fs} {p : Path} {k : Nat} {c : Bytes} (h : nodeIs fs p k c) : (fs.lookup p).isSome := by
  unfold nodeIs at h
  split at h
  · obtain ⟨ino, hl, _⟩ := h; rw [hl]; rfl
  · rw [h]; rfl
  · rw [h]; rfl
  · exact h.elim

theorem nodeIs_preserved {fs fs' : Fs} {p : Path} {k : Nat} {c : Bytes} (he : Preserved fs fs') (hp : p ≠ [])
    (h : nodeIs fs p k c) : nodeIs fs' p k c := by
  unfold nodeIs at h ⊢
  split at h
  · obtain ⟨ino, hl, hc⟩ := h
    exact ⟨ino, he.1 p _ hp hl, by rw [he.2 p ino hl]; exact hc⟩
  · exact he.1 p _ hp h
  · exact he.1 p _ hp h
  · exact h.elim

theorem nodeIs_dir {fs : Fs} {p : Path} {c : Bytes} (h : nodeIs fs p 1 c) : fs.lookup p = some .dir := h

end Pna.Compose
