import PnaVerif.Model.Split
import PnaVerif.Lemmas.Chunk
import PnaVerif.Lemmas.Outcome
import PnaVerif.Lemmas.StreamView
/-! Splitting an archive into part files (C04).  `streamView` (Lemmas/StreamView) is the canonical form of a chunk list
    under the cutting of data chunks; `CutOf cs ds` says that `ds` is `cs` cut further.  Each level of the call tree
    (`splitGo`, `splitPart`, `splitRest`, `splitToParts`, `placeParts`, `splitEntries`, `writeSplit`) has ONE
    specification, for the `Outcome`-valued ones of the form `(f x).Sat P Q` (`Lemmas/Outcome`): sizes and `CutOf` on
    success, `InvalidInput` only when the maximum cannot hold an indivisible chunk (`MinOk`), no panic. -/
namespace Pna

/-- "the maximum can hold every indivisible chunk": room for at least one payload byte of a
    stream chunk, and every non-stream chunk fits. -/
def MinOk (max : Nat) (cs : List Chunk) : Prop :=
  13 ≤ max ∧ ∀ c ∈ cs, c.isStream = false → c.bytesLen ≤ max

@[simp] theorem partLen_nil : partLen [] = 0 := rfl

@[simp] theorem partLen_cons (c : Chunk) (cs : List Chunk) :
    partLen (c :: cs) = c.bytesLen + partLen cs := by
  simp [partLen]

@[simp] theorem partLen_append (a b : List Chunk) : partLen (a ++ b) = partLen a + partLen b := by
  simp [partLen, List.sum_append]

/-- `c` is a chunk of `src`, or a piece of one: same type, payload no longer -/
def ChunkFrom (src : List Chunk) (c : Chunk) : Prop := ∃ d ∈ src, c.ty = d.ty ∧ c.data.length ≤ d.data.length

theorem ChunkFrom.mono {src src2 : List Chunk} {c : Chunk} (h : ChunkFrom src c) (hs : ∀ d ∈ src, d ∈ src2) :
    ChunkFrom src2 c := by
  obtain ⟨d, hd, h1, h2⟩ := h
  exact ⟨d, hs d hd, h1, h2⟩

/-- `ds` is `cs` with data chunks cut further: the same up to the cutting of data chunks, and every chunk of `ds` is a
    chunk of `cs` or a piece of one (nothing invented) -/
def CutOf (cs ds : List Chunk) : Prop := streamView ds = streamView cs ∧ ∀ c ∈ ds, ChunkFrom cs c

theorem CutOf.refl (cs : List Chunk) : CutOf cs cs := ⟨rfl, fun c h => ⟨c, h, rfl, Nat.le_refl _⟩⟩

theorem CutOf.append {a a' b b' : List Chunk} (h : CutOf a a') (g : CutOf b b') : CutOf (a ++ b) (a' ++ b') := by
  refine ⟨streamView_congr h.1 g.1, fun c hc => ?_⟩
  rcases List.mem_append.mp hc with hc | hc
  · exact (h.2 c hc).mono fun d => List.mem_append_left b
  · exact (g.2 c hc).mono fun d => List.mem_append_right a

theorem CutOf.trans {a b c : List Chunk} (h : CutOf a b) (g : CutOf b c) : CutOf a c := by
  refine ⟨g.1.trans h.1, fun x hx => ?_⟩
  obtain ⟨d, hd, h1, h2⟩ := g.2 x hx
  obtain ⟨e, he, h3, h4⟩ := h.2 d hd
  exact ⟨e, he, h1.trans h3, Nat.le_trans h2 h4⟩

theorem CutOf.cut (c : Chunk) (i : Nat) (hc : c.isStream = true) :
    CutOf [c] [⟨c.ty, c.data.take i⟩, ⟨c.ty, c.data.drop i⟩] := by
  refine ⟨?_, fun x hx => ⟨c, List.mem_singleton_self c, ?_⟩⟩
  · simp only [streamView_cons, streamView_nil]
    rw [svStep_merge ⟨c.ty, c.data.take i⟩ ⟨c.ty, c.data.drop i⟩ [] hc rfl, List.take_append_drop]
  · simp only [List.mem_cons, List.not_mem_nil, or_false] at hx
    rcases hx with rfl | rfl
    · exact ⟨rfl, List.length_take_le' _ _⟩
    · exact ⟨rfl, by simp⟩

/-- pieces of chunks that fit are no harder to fit -/
theorem MinOk.of_cut {max : Nat} {cs w rem : List Chunk} (hm : MinOk max cs) (h : CutOf cs (w ++ rem)) :
    MinOk max rem := by
  refine ⟨hm.1, fun c hc hs => ?_⟩
  obtain ⟨d, hd, ht, hl⟩ := h.2 c (List.mem_append_right _ hc)
  have := hm.2 d hd (by rw [← hs]; simp only [Chunk.isStream, ht])
  simp only [Chunk.bytesLen_def] at this ⊢
  omega

/-- what `split_to_parts` returns on success: pieces of `cs` in order, each within `max` -/
def PiecesOf (max : Nat) (cs : List Chunk) (ps : List (List Chunk)) : Prop :=
  (∀ p ∈ ps, partLen p ≤ max) ∧ CutOf cs ps.flatten

theorem PiecesOf.single {max : Nat} {cs : List Chunk} (h : partLen cs ≤ max) : PiecesOf max cs [cs] :=
  ⟨by simpa using h, by simpa using CutOf.refl cs⟩

theorem PiecesOf.cons {max : Nat} {cs w rem : List Chunk} {ps : List (List Chunk)} (hw : partLen w ≤ max)
    (hc : CutOf cs (w ++ rem)) (h : PiecesOf max rem ps) : PiecesOf max cs (w :: ps) :=
  ⟨by simpa using ⟨hw, h.1⟩, hc.trans ((CutOf.refl w).append h.2)⟩

/-- The loop of `EntryPart::split`, for every `total` and `first` so that the induction goes through; `w'` is what
    the loop adds to `first`.  The progress clause (`0 < partLen w' → … < partLen cs`) is what makes the fuel of
    `splitRest` suffice, the `MinOk` clause (the last) what excludes `InvalidInput`; the non-strict clause before the
    progress clause only carries the induction. -/
theorem splitGo_spec (max : Nat) (cs : List Chunk) : ∀ (total : Nat) (first : List Chunk),
    ∃ w', (splitGo max total first cs).1 = first ++ w' ∧
      (total ≤ max → total + partLen w' ≤ max) ∧
      CutOf cs (w' ++ (splitGo max total first cs).2) ∧
      partLen (splitGo max total first cs).2 ≤ partLen cs ∧
      (0 < partLen w' → partLen (splitGo max total first cs).2 < partLen cs) ∧
      (cs ≠ [] → MinOk max cs → total = 0 → 0 < partLen w') := by
  induction cs with
  | nil => intro total first; exact ⟨[], by simp [splitGo, CutOf.refl]⟩
  | cons c rest ih =>
    intro total first
    have hb := Chunk.bytesLen_def c
    rw [splitGo, show Chunk.minBytes = 12 from rfl]
    split
    · split
      · -- the chunk is cut
        rename_i h1 h2
        refine ⟨[⟨c.ty, c.data.take (max - total - 12)⟩], rfl, ?_,
          (CutOf.cut c _ h2.1).append (.refl rest), ?_, ?_, ?_⟩
        · -- the size clause
          intro _
          simp [Chunk.bytesLen_def, List.length_take]
          omega
        · -- the remainder is no longer
          simp [Chunk.bytesLen_def, List.length_drop]
        · -- the progress clause
          intro _
          simp [Chunk.bytesLen_def, List.length_drop]
          omega
        · -- the `MinOk` clause
          intro _ _ _
          simp only [partLen_cons, Chunk.bytesLen_def]
          omega
      · -- the chunk neither fits nor can be cut: nothing is added; left to prove is the `MinOk` clause
        rename_i h1 h2
        refine ⟨[], by simp, by simp, .refl _, Nat.le_refl _, by simp, ?_⟩
        intro _ hm h0
        subst h0
        by_cases hs : c.isStream = true
        · exact absurd ⟨hs, by have := hm.1; omega⟩ h2
        · have := hm.2 c List.mem_cons_self (by simpa using hs)
          omega
    · -- the chunk fits; of the induction hypothesis: `e2` the size clause, `e3` `CutOf`, `e5` the remainder is no
      -- longer, `e6` the progress clause
      obtain ⟨w'', e1, e2, e3, e5, e6, _⟩ := ih (total + c.bytesLen) (first ++ [c])
      refine ⟨c :: w'', by simp [e1], ?_, (CutOf.refl [c]).append e3, ?_, ?_, ?_⟩
      · -- the size clause
        intro _
        have := e2 (by omega)
        simp only [partLen_cons]
        omega
      · -- the remainder is no longer
        simp only [partLen_cons]
        omega
      · -- the progress clause
        intro _
        simp only [partLen_cons]
        omega
      · -- the `MinOk` clause
        intro _ _ _
        simp only [partLen_cons]
        omega

theorem splitPart_of_le {cs : List Chunk} {max : Nat} (h : partLen cs ≤ max) :
    splitPart cs max = (cs, none) := by
  simp [splitPart, h]

/-- `EntryPart::split`, the two shapes of its result.  Progress (`partLen rem < partLen cs`) is conditional on a
    non-empty first part: a first chunk that neither fits nor can be cut leaves everything in `rem`.  `MinOk`
    excludes that. -/
theorem splitPart_spec (cs : List Chunk) (max : Nat) :
    (partLen cs ≤ max ∧ splitPart cs max = (cs, none)) ∨
    (max < partLen cs ∧ ∃ w rem, splitPart cs max = (w, some rem) ∧ partLen w ≤ max ∧ CutOf cs (w ++ rem) ∧
      (0 < partLen w → partLen rem < partLen cs) ∧ (MinOk max cs → 0 < partLen w)) := by
  by_cases hle : partLen cs ≤ max
  · exact Or.inl ⟨hle, splitPart_of_le hle⟩
  · -- of `splitGo_spec`: `e2` the size clause, `e3` `CutOf`, `e6` the progress clause, `e7` the `MinOk` clause
    obtain ⟨w, e1, e2, e3, _, e6, e7⟩ := splitGo_spec max cs 0 []
    rw [List.nil_append] at e1
    refine Or.inr ⟨by omega, w, (splitGo max 0 [] cs).2, by simp [splitPart, hle, ← e1], ?_, e3, e6,
      fun hm => e7 (fun h => by simp [h] at hle) hm rfl⟩
    -- left: `partLen w ≤ max`
    have := e2 (Nat.zero_le _)
    omega

theorem splitRest_succ (max fuel : Nat) (cs : List Chunk) :
    splitRest max (fuel + 1) cs =
      match splitPart cs max with
      | (w, none) => .ok [w]
      | (w, some rem) =>
        if partLen w = 0 then .error .invalidInput
        else match splitRest max fuel rem with
          | .ok ps => .ok (w :: ps)
          | o => o := by
  rw [splitRest]
  rcases splitPart cs max with ⟨w, _ | rem⟩
  · rfl
  · simp only
    split
    · rfl
    · cases splitRest max fuel rem <;> rfl

/-- `split_to_parts` from the second iteration on.  Fuel above `partLen cs` never runs out: a round that goes on has
    written a non-empty part, so its remainder is smaller (`splitPart_spec`). -/
theorem splitRest_spec (max : Nat) : ∀ (fuel : Nat) (cs : List Chunk), partLen cs < fuel →
    (splitRest max fuel cs).Sat (PiecesOf max cs) (fun e => e = .invalidInput ∧ ¬ MinOk max cs) := by
  intro fuel
  induction fuel with
  | zero => intro cs h; omega
  | succ fuel ih =>
    intro cs hf
    rw [splitRest_succ]
    rcases splitPart_spec cs max with ⟨hle, hs⟩ | ⟨_, w, rem, hs, hw, hc, hp, hm⟩ <;> rw [hs]
    · exact PiecesOf.single hle
    · simp only
      by_cases h0 : partLen w = 0
      · rw [if_pos h0]
        exact ⟨rfl, fun h => by have := hm h; omega⟩
      · rw [if_neg h0]
        have := ih rem (by have := hp (by omega); omega)
        -- a call whose outcome is passed on: the callee's `Sat` goes into the goal, then `cases` on its outcome; each
        -- case turns the callee's clause into the caller's, and on a panic both `Sat`s reduce to `False`: `id`
        revert this
        cases splitRest max fuel rem with
        | ok ps => exact PiecesOf.cons hw hc
        | error e => exact fun ⟨i1, i2⟩ => ⟨i1, fun h => i2 (h.of_cut hc)⟩
        | panic s => exact id

theorem splitRest_ok (max : Nat) (cs : List Chunk) (hm : MinOk max cs) :
    ∃ ps, splitRest max (partLen cs + 1) cs = .ok ps ∧ (∀ p ∈ ps, partLen p ≤ max) ∧ streamView ps.flatten = streamView cs := by
  obtain ⟨ps, h, h1, h2, _⟩ := (splitRest_spec max _ cs (Nat.lt_succ_self _)).exists_ok fun e he => he.2 hm
  exact ⟨ps, h, h1, h2⟩

theorem splitRest_error (max : Nat) (cs : List Chunk) (e : Err) (h : splitRest max (partLen cs + 1) cs = .error e) :
    e = .invalidInput ∧ ¬ MinOk max cs :=
  (splitRest_spec max _ cs (Nat.lt_succ_self _)).of_error h

/-- `first ≤ max` holds at the one call site (`first = M - a.written`).  It puts the first piece within `max` too, and
    in the `InvalidInput` branch (`max ≤ first`) it gives `first = max`, so that `MinOk max cs` contradicts the empty
    first part of `splitPart cs first`. -/
theorem splitToParts_spec (cs : List Chunk) (first max : Nat) (hf : first ≤ max) :
    (splitToParts cs first max).Sat
      (fun parts => (∃ p ps, parts = p :: ps ∧ partLen p ≤ first) ∧ PiecesOf max cs parts)
      (fun e => e = .invalidInput ∧ ¬ MinOk max cs) := by
  unfold splitToParts
  rcases splitPart_spec cs first with ⟨hle, hs⟩ | ⟨_, w, rem, hs, hw, hc, _, hm⟩ <;> rw [hs]
  · exact ⟨⟨cs, [], rfl, hle⟩, .single (Nat.le_trans hle hf)⟩
  · simp only
    by_cases h0 : max ≤ first ∧ partLen w = 0
    · rw [if_pos h0]
      refine ⟨rfl, fun h => ?_⟩
      have := hm (show MinOk first cs by rw [show first = max by omega]; exact h)
      omega
    · rw [if_neg h0]
      have := splitRest_spec max _ rem (Nat.lt_succ_self _)
      revert this
      cases splitRest max (partLen rem + 1) rem with
      | ok ps => exact fun h => ⟨⟨w, ps, rfl, hw⟩, .cons (Nat.le_trans hw hf) hc h⟩
      | error e => exact fun ⟨i1, i2⟩ => ⟨i1, fun h => i2 (h.of_cut hc)⟩
      | panic s => exact id

theorem splitToParts_ok (cs : List Chunk) (first max : Nat) (hf : first ≤ max) (hm : MinOk max cs) :
    ∃ p ps, splitToParts cs first max = .ok (p :: ps) ∧ partLen p ≤ first ∧ (∀ q ∈ ps, partLen q ≤ max) ∧
      streamView (p :: ps).flatten = streamView cs := by
  obtain ⟨_, h, ⟨p, ps, rfl, h1⟩, h2, h3, _⟩ := (splitToParts_spec cs first max hf).exists_ok fun e he => he.2 hm
  exact ⟨p, ps, h, h1, fun q hq => h2 q (List.mem_cons_of_mem _ hq), h3⟩

/-- All chunks written so far, in order. -/
def SplitAcc.flat (a : SplitAcc) : List Chunk := a.closed.flatten ++ a.cur

/-- Invariant of the accumulator of `splitEntries`.  `written_le` is why `M - a.written`, the room left in the open
    part (`max_file_size - written_entry_size`), never truncates. -/
structure AccInv (M : Nat) (a : SplitAcc) : Prop where
  written_eq : a.written = partLen a.cur
  written_le : a.written ≤ M
  closed_le : ∀ b ∈ a.closed, partLen b ≤ M

theorem placeParts_cons (M : Nat) (a : SplitAcc) (p : List Chunk) (ps : List (List Chunk)) :
    placeParts M a (p :: ps) =
      if a.written + partLen p > M then
        placeParts M { closed := a.closed ++ [a.cur], cur := [] ++ p, written := 0 + partLen p } ps
      else placeParts M { closed := a.closed, cur := a.cur ++ p, written := a.written + partLen p } ps := by
  rw [placeParts]
  split <;> rfl

theorem placeParts_spec (M : Nat) : ∀ (parts : List (List Chunk)) (a : SplitAcc), AccInv M a →
    (∀ p ∈ parts, partLen p ≤ M) →
    AccInv M (placeParts M a parts) ∧ (placeParts M a parts).flat = a.flat ++ parts.flatten := by
  intro parts
  induction parts with
  | nil => intro a ha _; exact ⟨ha, by simp [placeParts]⟩
  | cons p ps ih =>
    intro a ha hp
    have hpM : partLen p ≤ M := hp p List.mem_cons_self
    have hps : ∀ q ∈ ps, partLen q ≤ M := fun q hq => hp q (List.mem_cons_of_mem _ hq)
    rw [placeParts_cons]
    split
    · obtain ⟨i1, i2⟩ := ih ⟨a.closed ++ [a.cur], [] ++ p, 0 + partLen p⟩ ⟨by simp, by simpa using hpM, fun b hb => by
        rcases List.mem_append.mp hb with hb | hb
        · exact ha.closed_le b hb
        · rw [List.mem_singleton.mp hb]
          have := ha.written_eq
          have := ha.written_le
          omega⟩ hps
      exact ⟨i1, by rw [i2]; simp [SplitAcc.flat]⟩
    · obtain ⟨i1, i2⟩ := ih ⟨a.closed, a.cur ++ p, a.written + partLen p⟩
        ⟨by simp [ha.written_eq], by simp only; omega, ha.closed_le⟩ hps
      exact ⟨i1, by rw [i2]; simp [SplitAcc.flat]⟩

theorem splitEntries_cons (M : Nat) (a : SplitAcc) (e : List Chunk) (es : List (List Chunk)) :
    splitEntries M a (e :: es) =
      match splitToParts e (M - a.written) M with
      | .ok parts => splitEntries M (placeParts M a parts) es
      | .error err => .error err
      | .panic s => .panic s := by
  rw [splitEntries]
  cases splitToParts e (M - a.written) M <;> rfl

/-- the `for entry in entries` loop of `write_split_archive_writer` -/
theorem splitEntries_spec (M : Nat) : ∀ (es : List (List Chunk)) (a : SplitAcc), AccInv M a →
    (splitEntries M a es).Sat (fun a' => AccInv M a' ∧ CutOf (a.flat ++ es.flatten) a'.flat)
      (fun err => err = .invalidInput ∧ ∃ e ∈ es, ¬ MinOk M e) := by
  intro es
  induction es with
  | nil => intro a ha; exact ⟨ha, by simpa using CutOf.refl a.flat⟩
  | cons e es ih =>
    intro a ha
    rw [splitEntries_cons]
    have := splitToParts_spec e (M - a.written) M (Nat.sub_le _ _)
    revert this
    cases splitToParts e (M - a.written) M with
    | ok parts =>
      intro ⟨_, h1, h2⟩
      obtain ⟨p1, p2⟩ := placeParts_spec M parts a ha h1
      have := ih _ p1
      revert this
      simp only [p2, List.flatten_cons, ← List.append_assoc]
      cases splitEntries M (placeParts M a parts) es with
      | ok a' => exact fun ⟨i1, i2⟩ => ⟨i1, (((CutOf.refl a.flat).append h2).append (.refl es.flatten)).trans i2⟩
      | error err => exact fun ⟨i1, x, hx, hx'⟩ => ⟨i1, x, List.mem_cons_of_mem _ hx, hx'⟩
      | panic s => exact id
    | error err => exact fun ⟨i1, i2⟩ => ⟨i1, e, List.mem_cons_self, i2⟩
    | panic s => exact id

theorem MinOk.of_flatten {M : Nat} {es : List (List Chunk)} (hm : MinOk M es.flatten) :
    ∀ e ∈ es, MinOk M e :=
  fun e he => ⟨hm.1, fun c hc hs => hm.2 c (List.mem_flatten.mpr ⟨e, he, hc⟩) hs⟩

/-- what a successful `write_split_archive_writer` has produced -/
structure SplitOk (entries : List (List Chunk)) (maxFile : Nat) (bodies : List (List Chunk)) : Prop where
  ne_nil : bodies ≠ []
  sizes : ∀ b ∈ bodies, partLen b + splitOverhead ≤ maxFile
  cut : CutOf entries.flatten bodies.flatten

/-- **`write_split_archive_writer`**: the specification from which the theorems of `Props/C04.lean` are read off.
    The only panic in `Model/Split.lean` is `"fuel"`, so "no panic" says that the fuel handed to `splitRest` suffices. -/
theorem writeSplit_spec (entries : List (List Chunk)) (maxFile : Nat) :
    (writeSplit entries maxFile).Sat (SplitOk entries maxFile)
      (fun e => e = .invalidInput ∧ (maxFile < splitOverhead ∨ ¬ MinOk (maxFile - splitOverhead) entries.flatten)) := by
  unfold writeSplit
  split
  · rename_i hlt
    exact ⟨rfl, Or.inl hlt⟩
  · have := splitEntries_spec (maxFile - splitOverhead) entries {} ⟨rfl, Nat.zero_le _, by simp⟩
    revert this
    cases splitEntries (maxFile - splitOverhead) {} entries with
    | ok a =>
      intro ⟨i1, i2⟩
      refine ⟨by simp, fun b hb => ?_, by simpa [SplitAcc.flat] using i2⟩
      rcases List.mem_append.mp hb with hb | hb
      · have := i1.closed_le b hb
        omega
      · rw [List.mem_singleton.mp hb]
        have := i1.written_eq
        have := i1.written_le
        omega
    | error e => exact fun ⟨i1, x, hx, hx'⟩ => ⟨i1, Or.inr fun hm => hx' (hm.of_flatten x hx)⟩
    | panic s => exact id

theorem writeSplit_ok_spec {entries : List (List Chunk)} {maxFile : Nat} {bodies : List (List Chunk)}
    (h : writeSplit entries maxFile = .ok bodies) : SplitOk entries maxFile bodies :=
  (writeSplit_spec entries maxFile).of_ok h

end Pna
