import PnaVerif.Model.Name
import PnaVerif.Lemmas.SplitJoin
/-! `splitSlash`/`joinSlash` are core's `splitOn`/`intercalate` (`splitSlash_eq`, `joinSlash_eq`), whence their
    algebra (`splitSlash_append`, `splitSlash_joinSlash`).  Entry-name sanitiser: output components are all
    `Normal`, no root, idempotent, and valid UTF-8 stays valid UTF-8 (`validUtf8_sanitize`: `/` never occurs inside
    a multi-byte sequence). -/
namespace Pna

theorem splitSlash_eq (s : Bytes) : splitSlash s = s.splitOn slash := by
  induction s with
  | nil => rfl
  | cons b rest ih =>
    rw [splitSlash, ih, List.splitOn_cons_eq_match]
    cases rest.splitOn slash <;> rfl

theorem joinSlash_eq (cs : List Bytes) : joinSlash cs = [slash].intercalate cs := by
  fun_induction joinSlash cs with
  | case1 => rfl
  | case2 c => exact List.intercalate_singleton.symm
  | case3 c cs h ih =>
    rw [ih, List.intercalate_cons_of_ne_nil h]
    simp

theorem splitSlash_ne_nil (s : Bytes) : splitSlash s ≠ [] :=
  splitSlash_eq s ▸ List.splitOn_ne_nil slash s

theorem splitSlash_append (a b : Bytes) : splitSlash (a ++ slash :: b) = splitSlash a ++ splitSlash b := by
  rw [splitSlash_eq, splitSlash_eq, splitSlash_eq, List.splitOn_append_cons_self]

theorem splitSlash_no_slash (s : Bytes) : ∀ c ∈ splitSlash s, slash ∉ c :=
  splitSlash_eq s ▸ List.not_mem_of_mem_splitOn slash s

theorem splitSlash_joinSlash (cs : List Bytes) (hne : cs ≠ []) (hns : ∀ c ∈ cs, slash ∉ c) :
    splitSlash (joinSlash cs) = cs := by
  rw [splitSlash_eq, joinSlash_eq, List.splitOn_intercalate slash hns hne]

theorem joinSlash_head (b : UInt8) (rest : Bytes) (cs : List Bytes) :
    (joinSlash ((b :: rest) :: cs)).head? = some b := by
  cases cs <;> simp [joinSlash]

theorem sanitize_nil : sanitize [] = [] := by decide

/-- The empty name stands apart: `splitSlash [] = [[]]` has an empty component. -/
theorem sanitize_components (s : Bytes) :
    sanitize s = [] ∨
    (splitSlash (sanitize s) = (splitSlash s).filter isNormalComp ∧
     ∀ c ∈ splitSlash (sanitize s), c ≠ [] ∧ c ≠ [dot] ∧ c ≠ [dot, dot] ∧ slash ∉ c) := by
  unfold sanitize
  cases hk : (splitSlash s).filter isNormalComp with
  | nil => left; rfl
  | cons c cs =>
    have hmem : ∀ x ∈ c :: cs, x ∈ splitSlash s ∧ isNormalComp x = true :=
      fun x hx => List.mem_filter.mp (hk ▸ hx)
    have hns : ∀ x ∈ c :: cs, slash ∉ x := fun x hx => splitSlash_no_slash s x (hmem x hx).1
    rw [splitSlash_joinSlash (c :: cs) (by simp) hns]
    refine .inr ⟨rfl, fun x hx => ?_⟩
    have hn := (hmem x hx).2
    simp only [isNormalComp, Bool.and_eq_true, decide_eq_true_eq] at hn
    exact ⟨hn.1.1, hn.1.2, hn.2, hns x hx⟩

theorem sanitize_idem (s : Bytes) : sanitize (sanitize s) = sanitize s := by
  rcases sanitize_components s with h | ⟨h, -⟩
  · rw [h, sanitize_nil]
  · show joinSlash ((splitSlash (sanitize s)).filter isNormalComp) = sanitize s
    rw [h, List.filter_filter]
    simp [sanitize]

/-- a leading slash would make an empty first component -/
theorem sanitize_no_root (s : Bytes) : (sanitize s).head? ≠ some slash := by
  intro h
  obtain ⟨rest, hr⟩ := List.head?_eq_some_iff.mp h
  rcases sanitize_components s with h0 | ⟨-, hc⟩
  · rw [h0] at hr
    cases hr
  · rw [hr] at hc
    exact (hc [] (by simp [splitSlash])).1 rfl

theorem validUtf8_iff (bs : Bytes) :
    validUtf8 bs = true ↔ ∃ m : List Char, bs = m.flatMap String.utf8EncodeChar := by
  unfold validUtf8
  rw [ByteArray.validateUTF8_eq_true_iff]
  constructor
  · rintro ⟨m, hm⟩
    refine ⟨m, ?_⟩
    have := congrArg ByteArray.data hm
    simp only [List.utf8Encode, List.data_toByteArray] at this
    simpa using this
  · rintro ⟨m, rfl⟩
    refine ⟨m, ?_⟩
    simp [List.utf8Encode, ByteArray.ext_iff, List.data_toByteArray]

theorem validUtf8_nil : validUtf8 [] = true := (validUtf8_iff _).mpr ⟨[], rfl⟩

theorem validUtf8_append {a b : Bytes} (ha : validUtf8 a = true) (hb : validUtf8 b = true) :
    validUtf8 (a ++ b) = true := by
  obtain ⟨m, rfl⟩ := (validUtf8_iff _).mp ha
  obtain ⟨m', rfl⟩ := (validUtf8_iff _).mp hb
  exact (validUtf8_iff _).mpr ⟨m ++ m', by simp⟩

theorem utf8EncodeChar_slash : String.utf8EncodeChar '/' = [slash] := by decide

theorem validUtf8_encChar (c : Char) : validUtf8 (String.utf8EncodeChar c) = true :=
  (validUtf8_iff _).mpr ⟨[c], by simp⟩

theorem validUtf8_slash : validUtf8 [slash] = true :=
  utf8EncodeChar_slash ▸ validUtf8_encChar '/'

theorem validUtf8_replicate (n : Nat) {b : UInt8} {c : Char} (h : String.utf8EncodeChar c = [b]) :
    validUtf8 (List.replicate n b) = true := by
  induction n with
  | zero => exact validUtf8_nil
  | succ n ih =>
    rw [List.replicate_succ, ← List.singleton_append, ← h]
    exact validUtf8_append (validUtf8_encChar c) ih

theorem slash_not_mem_encChar (c : Char) (hc : c ≠ '/') : slash ∉ String.utf8EncodeChar c := by
  -- a byte `UInt8.ofNat n` with `128 ≤ n < 256` is not `/`; the bytes of a multi-byte sequence are such
  have key : ∀ n : Nat, 128 ≤ n → n < 256 → slash ≠ UInt8.ofNat n := by
    intro n h1 h2 h
    have := congrArg UInt8.toNat h
    simp [UInt8.toNat_ofNat', slash] at this
    omega
  intro hmem
  unfold String.utf8EncodeChar at hmem
  simp only at hmem
  split at hmem
  · rename_i h7
    have := congrArg UInt8.toNat (List.mem_singleton.mp hmem)
    rw [UInt8.toNat_ofNat', Nat.mod_eq_of_lt (by omega)] at this
    exact hc (Char.ext (UInt32.toNat_inj.mp this.symm))
  · split at hmem
    · simp only [List.mem_cons, List.not_mem_nil, or_false] at hmem
      rcases hmem with h | h <;> exact key _ (by omega) (by omega) h
    · split at hmem
      · simp only [List.mem_cons, List.not_mem_nil, or_false] at hmem
        rcases hmem with h | h | h <;> exact key _ (by omega) (by omega) h
      · simp only [List.mem_cons, List.not_mem_nil, or_false] at hmem
        rcases hmem with h | h | h | h <;> exact key _ (by omega) (by omega) h

theorem splitSlash_valid_aux (m : List Char) :
    ∀ c ∈ splitSlash (m.flatMap String.utf8EncodeChar), validUtf8 c = true := by
  induction m with
  | nil =>
    intro c hc
    simp [splitSlash] at hc
    subst hc; exact validUtf8_nil
  | cons ch m ih =>
    rw [List.flatMap_cons]
    by_cases hch : ch = '/'
    · subst hch
      rw [utf8EncodeChar_slash]
      intro c hc
      simp only [List.singleton_append, splitSlash, ite_true, List.mem_cons] at hc
      rcases hc with rfl | hc
      · exact validUtf8_nil
      · exact ih c hc
    · have hne := splitSlash_ne_nil (m.flatMap String.utf8EncodeChar)
      rw [splitSlash_eq] at ih hne ⊢
      rw [List.splitOn_append_of_not_mem slash _ _ (slash_not_mem_encChar ch hch)]
      intro c hc
      rcases List.mem_cons.1 hc with rfl | hc
      · exact validUtf8_append (validUtf8_encChar ch) (ih _ (List.head_mem hne))
      · exact ih c (List.mem_of_mem_tail hc)

theorem joinSlash_valid (cs : List Bytes) (h : ∀ c ∈ cs, validUtf8 c = true) :
    validUtf8 (joinSlash cs) = true := by
  fun_induction joinSlash cs with
  | case1 => exact validUtf8_nil
  | case2 c => exact h c (by simp)
  | case3 c cs _ ih =>
    exact validUtf8_append (h c (by simp))
      (validUtf8_append validUtf8_slash (ih fun x hx => h x (by simp [hx])))

theorem validUtf8_sanitize (s : Bytes) (h : validUtf8 s = true) : validUtf8 (sanitize s) = true := by
  obtain ⟨m, rfl⟩ := (validUtf8_iff _).mp h
  unfold sanitize
  apply joinSlash_valid
  intro c hc
  exact splitSlash_valid_aux m c (List.mem_filter.mp hc).1

end Pna
