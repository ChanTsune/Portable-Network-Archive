import PnaVerif.Model.Append
import PnaVerif.Lemmas.ListFacts
import PnaVerif.Lemmas.ArchiveRt
/-!
  `seek_to_end` and append on bytes (Model/Append.lean), for `Props/C11Append.lean`.  Three facts carry the file:
  * frames — `seek_to_end` walks over chunk heads; a *frame* is a head followed by a body of the
    announced size whose content (data and CRC) is never looked at (`seekEndGo_frames_aend`,
    `seekEnd_frames_aend`); altering a byte of a body leaves the frames' heads alone (`framesBytes_set`,
    `seekEnd_set_body`);
  * cuts — the answer `(q, _)` on ANY file rests on its first `q + 8` bytes: a prefix that keeps them
    gets the same answer, a shorter one `UnexpectedEof` (`seekEnd_take`, and `appendBytes_take`);
  * archives — on `archiveBytes n body` (Lemmas/ArchiveRt: every archive and part file the writers produce)
    the end marker is found behind `body`, and append gives `archiveBytes n (body ++ new)`
    (`seekEnd_archiveBytes`, `appendBytes_archiveBytes`).
-/
namespace Pna.Append
open Pna ChunkType

theorem encodeChunkList_eq (cs : List Chunk) : encodeChunkList cs = encodeChunks cs := rfl

/-! As for `decodeStream` (Lemmas/Chunk.lean): an input is *short* (fewer than 8 bytes: `eof`) or begins with a *head*
    `lenB ++ type` (the answer is read off it); totality, the bound and the cut are read off from the two cases. -/

theorem skipChunk_short (r : Bytes) (h : r.length < 8) : skipChunk r = .error .eof := by
  unfold skipChunk
  by_cases h1 : r.length < 4
  · rw [readExact_short h1]; rfl
  · simp only [readExact_le (Nat.le_of_not_lt h1), Outcome.bind_ok]
    rw [readExact_short (by rw [List.length_drop]; omega)]; rfl

theorem skipChunk_head {lenB : Bytes} (hl : lenB.length = 4) (ty : ChunkType) (rest : Bytes) :
    skipChunk (lenB ++ (ty.toBytes ++ rest)) = .ok (ty, 12 + fromBe lenB) := by
  unfold skipChunk
  simp only [readExact_append hl, Outcome.bind_ok, readExact_append ty.toBytes_length, ChunkType.ofBytes?_toBytes]

theorem short_or_head (r : Bytes) :
    r.length < 8 ∨ ∃ lenB ty rest, r = lenB ++ (ChunkType.toBytes ty ++ rest) ∧ lenB.length = 4 := by
  by_cases h : r.length < 8
  · exact .inl h
  · obtain ⟨ty, hty⟩ := ChunkType.eq_toBytes_of_length (tyB := (r.drop 4).take 4) (by simp; omega)
    exact .inr ⟨r.take 4, ty, (r.drop 4).drop 4, by rw [← hty, List.take_append_drop, List.take_append_drop],
      by simp; omega⟩

theorem skipChunk_ok_inv (r : Bytes) (ty : ChunkType) (n : Nat) (h : skipChunk r = .ok (ty, n)) :
    8 ≤ r.length ∧ 12 ≤ n := by
  rcases short_or_head r with hs | ⟨lenB, t, rest, rfl, hl⟩
  · rw [skipChunk_short r hs] at h; cases h
  · rw [skipChunk_head hl] at h
    cases h
    exact ⟨by simp; omega, Nat.le_add_right _ _⟩

theorem skipChunk_no_panic (r : Bytes) (s : String) : skipChunk r ≠ .panic s := by
  rcases short_or_head r with hs | ⟨lenB, t, rest, rfl, hl⟩
  · rw [skipChunk_short r hs]; nofun
  · rw [skipChunk_head hl]; nofun

theorem skipChunk_take (r : Bytes) (k : Nat) (hk : 8 ≤ k) : skipChunk (r.take k) = skipChunk r := by
  rcases short_or_head r with hs | ⟨lenB, t, rest, rfl, hl⟩
  · rw [List.take_of_length_le (by omega)]
  · rw [List.take_append, List.take_of_length_le (by omega), List.take_append,
      List.take_of_length_le (by simp; omega), skipChunk_head hl, skipChunk_head hl]

theorem seekEndGo_ok_bound (fuel pos : Nat) (nx : Bool) (bs : Bytes) (q : Nat) (f : Bool)
    (h : seekEndGo fuel pos nx bs = .ok (q, f)) : pos ≤ q ∧ q + 8 ≤ bs.length := by
  induction fuel generalizing pos nx with
  | zero => simp [seekEndGo] at h
  | succ fuel ih =>
    unfold seekEndGo at h
    split at h
    · cases h
    · cases h
    · rename_i ty n hs
      have hb := skipChunk_ok_inv _ _ _ hs
      split at h
      · simp only [Outcome.ok.injEq, Prod.mk.injEq] at h
        obtain ⟨rfl, _⟩ := h
        have := hb.1
        simp only [List.length_drop] at this
        omega
      · have := ih _ _ h
        omega

theorem seekEndGo_short (fuel pos : Nat) (nx : Bool) (bs : Bytes) (h : bs.length < pos + 8) :
    seekEndGo (fuel + 1) pos nx bs = .error .eof := by
  unfold seekEndGo
  rw [skipChunk_short _ (by simp only [List.length_drop]; omega)]

/-- every step advances by at least 12 bytes, so the loop never runs out of fuel -/
theorem seekEndGo_no_panic (fuel pos : Nat) (nx : Bool) (bs : Bytes)
    (hf : bs.length < pos + 8 + 12 * fuel) (s : String) :
    seekEndGo (fuel + 1) pos nx bs ≠ .panic s := by
  induction fuel generalizing pos nx with
  | zero => rw [seekEndGo_short 0 pos nx bs (by omega)]; intro h; cases h
  | succ fuel ih =>
    unfold seekEndGo
    split
    · intro h; cases h
    · rename_i s2 hs; exact absurd hs (skipChunk_no_panic _ _)
    · rename_i ty n hs
      have hb := skipChunk_ok_inv _ _ _ hs
      split
      · intro h; cases h
      · exact ih _ _ (by omega)

theorem seekEndGo_step (fuel pos : Nat) (nx : Bool) (bs : Bytes) (ty : ChunkType) (n : Nat)
    (hs : skipChunk (bs.drop pos) = .ok (ty, n)) (hty : ty ≠ AEND) :
    seekEndGo (fuel + 1) pos nx bs = seekEndGo fuel (pos + n) (nx || ty == ANXT) bs := by
  rw [seekEndGo, hs]
  simp only
  rw [if_neg hty]

theorem seekEndGo_stop (fuel pos : Nat) (nx : Bool) (bs : Bytes) (n : Nat)
    (hs : skipChunk (bs.drop pos) = .ok (AEND, n)) :
    seekEndGo (fuel + 1) pos nx bs = .ok (pos, nx) := by
  rw [seekEndGo, hs]
  simp only [if_true]

/-- The answer rests on the first `q + 8` bytes (up to the end of the end marker's head), for ANY file.
    (Fuel: 12 bytes per unit, as in `seekEndGo_no_panic`.) -/
theorem seekEndGo_take (bs : Bytes) (k q : Nat) (f : Bool) (fuel fuel' pos : Nat) (nx : Bool)
    (h : seekEndGo fuel pos nx bs = .ok (q, f)) (hk : k ≤ bs.length) (hf : k < pos + 8 + 12 * fuel') :
    seekEndGo (fuel' + 1) pos nx (bs.take k) = if k < q + 8 then .error .eof else .ok (q, f) := by
  have hl : (bs.take k).length = k := by rw [List.length_take, Nat.min_eq_left hk]
  induction fuel generalizing fuel' pos nx with
  | zero => cases h
  | succ fuel ih =>
    have hb := (seekEndGo_ok_bound _ _ _ _ _ _ h).1
    by_cases hs : k < pos + 8
    · rw [seekEndGo_short _ _ _ _ (by rw [hl]; exact hs), if_pos (by omega)]
    · rw [seekEndGo] at h ⊢
      rw [List.drop_take, skipChunk_take _ _ (by omega)]
      cases hsk : skipChunk (bs.drop pos) with
      | error e => rw [hsk] at h; cases h
      | panic s => rw [hsk] at h; cases h
      | ok p =>
        obtain ⟨ty, n⟩ := p
        rw [hsk] at h
        simp only at h ⊢
        by_cases hty : ty = AEND
        · rw [if_pos hty] at h ⊢
          cases h
          rw [if_neg hs]
        · rw [if_neg hty] at h ⊢
          obtain ⟨f2, rfl⟩ : ∃ f2, fuel' = f2 + 1 := ⟨fuel' - 1, by omega⟩
          have := (skipChunk_ok_inv _ _ _ hsk).2
          exact ih _ _ _ h (by omega)

/-- What `seek_to_end` sees of a chunk: its type, and a body (data followed by the 4 CRC bytes)
    of which only the LENGTH matters — the content is sought over. -/
structure Frame where
  ty : ChunkType
  body : Bytes

/-- the body holds at least the CRC, and its data part fits the 32-bit length field -/
def Frame.Valid (f : Frame) : Prop := 4 ≤ f.body.length ∧ f.body.length - 4 < 2 ^ 32

instance (f : Frame) : Decidable f.Valid := by unfold Frame.Valid; exact inferInstance

def Frame.bytes (f : Frame) : Bytes := be32 (f.body.length - 4) ++ (f.ty.toBytes ++ f.body)

def framesBytes (fs : List Frame) : Bytes := fs.flatMap Frame.bytes

def toFrame (c : Chunk) : Frame := ⟨c.ty, c.data ++ be32 c.crc⟩

theorem Frame.bytes_length (f : Frame) : f.bytes.length = 8 + f.body.length := by
  simp [Frame.bytes]; omega

theorem framesBytes_nil : framesBytes [] = [] := rfl

theorem framesBytes_cons (f : Frame) (fs : List Frame) : framesBytes (f :: fs) = f.bytes ++ framesBytes fs := by
  simp [framesBytes]

theorem framesBytes_append (a b : List Frame) : framesBytes (a ++ b) = framesBytes a ++ framesBytes b := by
  simp [framesBytes]

theorem toFrame_bytes (c : Chunk) : (toFrame c).bytes = c.encode := by
  simp [toFrame, Frame.bytes, Chunk.encode, List.append_assoc]

theorem toFrame_valid (c : Chunk) (h : c.data.length < 2 ^ 32) : (toFrame c).Valid := by
  simp only [Frame.Valid, toFrame, List.length_append, be32_length]
  omega

theorem framesBytes_map_toFrame (cs : List Chunk) : framesBytes (cs.map toFrame) = encodeChunks cs := by
  induction cs with
  | nil => rfl
  | cons c cs ih => rw [List.map_cons, framesBytes_cons, encodeChunks_cons, ih, toFrame_bytes]

theorem AEND_encode : (Chunk.mk AEND []).encode = be32 0 ++ (AEND.toBytes ++ be32 (Chunk.mk AEND []).crc) := by
  simp [Chunk.encode]

theorem framesBytes_length_eq (fs gs : List Frame)
    (h : fs.map (fun f => (f.ty, f.body.length)) = gs.map (fun f => (f.ty, f.body.length))) :
    (framesBytes fs).length = (framesBytes gs).length ∧
      fs.any (·.ty == ANXT) = gs.any (·.ty == ANXT) := by
  induction fs generalizing gs with
  | nil =>
    cases gs with
    | nil => exact ⟨rfl, rfl⟩
    | cons g gs => simp at h
  | cons f fs ih =>
    cases gs with
    | nil => simp at h
    | cons g gs =>
      simp only [List.map_cons, List.cons.injEq, Prod.mk.injEq] at h
      obtain ⟨⟨ht, hl⟩, hrest⟩ := h
      obtain ⟨i1, i2⟩ := ih gs hrest
      refine ⟨?_, ?_⟩
      · rw [framesBytes_cons, framesBytes_cons, List.length_append, List.length_append,
          Frame.bytes_length, Frame.bytes_length, hl, i1]
      · rw [List.any_cons, List.any_cons, ht, i2]

theorem framesBytes_length_ge (fs : List Frame) : fs.length ≤ (framesBytes fs).length := by
  induction fs with
  | nil => simp
  | cons f fs ih =>
    rw [framesBytes_cons, List.length_append, Frame.bytes_length, List.length_cons]
    omega

theorem skipChunk_frame (f : Frame) (hv : f.Valid) (rest : Bytes) :
    skipChunk (f.bytes ++ rest) = .ok (f.ty, f.bytes.length) := by
  have := hv.1
  rw [Frame.bytes_length, Frame.bytes, List.append_assoc, List.append_assoc, skipChunk_head (be32_length _),
    fromBe_be32_lt hv.2]
  congr 2
  omega

/-- Walking over frames, whatever their bodies contain.  Of the AEND chunk only the 8-byte head is needed, with
    any length field `l`; `tail` is anything or nothing. -/
theorem seekEndGo_frames_aend (fs : List Frame) (hv : ∀ f ∈ fs, f.Valid) (hno : ∀ f ∈ fs, f.ty ≠ AEND)
    (bs tail : Bytes) (pos l : Nat) (nx : Bool) (fuel : Nat) (hf : fs.length < fuel)
    (h : bs.drop pos = framesBytes fs ++ (be32 l ++ (AEND.toBytes ++ tail))) :
    seekEndGo fuel pos nx bs = .ok (pos + (framesBytes fs).length, nx || fs.any (·.ty == ANXT)) := by
  obtain ⟨fuel, rfl⟩ : ∃ f2, fuel = f2 + 1 := ⟨fuel - 1, by omega⟩
  induction fs generalizing pos nx fuel with
  | nil =>
    rw [framesBytes_nil, List.nil_append] at h
    rw [seekEndGo_stop _ _ _ _ _ (h ▸ skipChunk_head (be32_length l) AEND tail)]
    simp [framesBytes_nil]
  | cons f fs ih =>
    rw [framesBytes_cons, List.append_assoc] at h
    obtain ⟨fuel, rfl⟩ : ∃ f2, fuel = f2 + 1 := ⟨fuel - 1, by simp at hf; omega⟩
    rw [seekEndGo_step _ _ _ _ _ _ (h ▸ skipChunk_frame f (hv f (by simp)) _) (hno f (by simp)),
      ih (fun g hg => hv g (by simp [hg])) (fun g hg => hno g (by simp [hg])) _ _
        (by rw [← List.drop_drop, h, List.drop_left]) _ (by simp at hf; omega),
      framesBytes_cons, List.length_append, Nat.add_assoc, List.any_cons, Bool.or_assoc]

/-- `⟨0, 0, n⟩`: the header the writers emit for part number `n`. -/
theorem sigAHED_length (n : Nat) : (signature ++ (Chunk.mk AHED (encAHED ⟨0, 0, n⟩)).encode).length = 28 := by
  rw [List.length_append, AHED_encode_length, signature_length]

/-- The header steps.  28 = 8 (signature) + 12 + 8: data that `decAHED` accepts has 8 bytes. -/
theorem seekEnd_of_header (c0 : Chunk) (hd : ArchiveHeader) (r : Bytes) (hty : c0.ty = AHED)
    (h : decAHED c0.data = .ok hd) :
    seekEnd (signature ++ (c0.encode ++ r))
      = seekEndGo ((signature ++ (c0.encode ++ r)).length + 1) 28 false (signature ++ (c0.encode ++ r)) := by
  have h8 := decAHED_ok_length _ _ h
  unfold seekEnd
  rw [readSigStream_sig]
  simp only
  rw [decodeStream_encode _ _ (by omega)]
  simp only
  rw [if_neg (not_not_intro hty), h]
  simp only [Chunk.bytesLen, Chunk.minBytes, h8]

theorem seekEnd_ok_inv (bs : Bytes) (p : Nat × Bool) (h : seekEnd bs = .ok p) :
    ∃ (c0 : Chunk) (hd : ArchiveHeader) (r : Bytes),
      bs = signature ++ (c0.encode ++ r) ∧ c0.ty = AHED ∧ decAHED c0.data = .ok hd := by
  unfold seekEnd at h
  split at h
  · cases h
  · cases h
  · rename_i r hr
    split at h
    · cases h
    · cases h
    · rename_i c0 r' hdc
      split at h
      · cases h
      · rename_i hty
        split at h
        · cases h
        · cases h
        · rename_i hd hdec
          refine ⟨c0, hd, r', ?_, Classical.not_not.mp hty, hdec⟩
          rw [(decodeStream_ok_inv _ _ _ hdc).1]
          exact readSigStream_ok_inv _ _ hr

/-- In particular the fuel `bs.length + 1` that `seekEnd` gives the loop suffices. -/
theorem seekEnd_no_panic (bs : Bytes) (s : String) : seekEnd bs ≠ .panic s := by
  unfold seekEnd
  split
  · intro h; cases h
  · exact (ne_panic (readSigStream_no_panic _) ‹_›).elim
  · split
    · intro h; cases h
    · exact (ne_panic (decodeStream_no_panic _) ‹_›).elim
    · split
      · intro h; cases h
      · split
        · intro h; cases h
        · exact (ne_panic (decAHED_no_panic _) ‹_›).elim
        · apply seekEndGo_no_panic
          omega

theorem seekEnd_ok_bound (bs : Bytes) (pos : Nat) (f : Bool) (h : seekEnd bs = .ok (pos, f)) :
    28 ≤ pos ∧ pos + 8 ≤ bs.length := by
  obtain ⟨c0, hd, r, rfl, hty, hdec⟩ := seekEnd_ok_inv _ _ h
  rw [seekEnd_of_header c0 hd r hty hdec] at h
  exact seekEndGo_ok_bound _ _ _ _ _ _ h

/-- Cuts, for EVERY file on which `seek_to_end` succeeds, written archive or not. -/
theorem seekEnd_take (bs : Bytes) (q : Nat) (f : Bool) (h : seekEnd bs = .ok (q, f)) (k : Nat) :
    seekEnd (bs.take k) = if k < q + 8 then .error .eof else .ok (q, f) := by
  have hb := seekEnd_ok_bound bs q f h
  by_cases hk : bs.length ≤ k
  · rw [List.take_of_length_le hk, h, if_neg (by omega)]
  obtain ⟨c0, hd, r, rfl, hty, hdec⟩ := seekEnd_ok_inv _ _ h
  have hl : c0.encode.length = 20 := by rw [Chunk.encode_length, decAHED_ok_length _ _ hdec]
  rw [seekEnd_of_header c0 hd r hty hdec] at h
  -- a cut inside the file, three regimes: `k < 8` (inside the signature), `k < 28` (inside the AHED chunk), behind
  -- the header
  by_cases h8 : k < 8
  · rw [if_pos (by omega)]
    unfold seekEnd
    rw [readSigStream_take_short _ k h8]
  · have e : (signature ++ (c0.encode ++ r)).take k = signature ++ (c0.encode ++ r).take (k - 8) := by
      rw [List.take_append, List.take_of_length_le (by rw [signature_length]; omega), signature_length]
    by_cases h28 : k < 28
    · rw [if_pos (by omega)]
      unfold seekEnd
      rw [e, readSigStream_sig]
      simp only
      rw [decodeStream_prefix_eof _ _ _ (by rw [Chunk.encode_length] at hl; omega) (by omega)]
    · have e2 : (signature ++ (c0.encode ++ r)).take k = signature ++ (c0.encode ++ r.take (k - 28)) := by
        rw [e, List.take_append, List.take_of_length_le (by omega), hl, Nat.sub_sub]
      rw [e2, seekEnd_of_header c0 hd _ hty hdec, ← e2]
      exact seekEndGo_take _ k q f _ _ 28 false h (by omega)
        (by rw [List.length_take, Nat.min_eq_left (by omega)]; omega)

theorem overwriteAt_take (bs : Bytes) (pos : Nat) (w : Bytes) (h : pos ≤ bs.length) :
    (overwriteAt bs pos w).take pos = bs.take pos := by
  unfold overwriteAt
  rw [if_pos h, List.append_assoc]
  exact List.take_left' (by simp; omega)

theorem overwriteAt_length (bs : Bytes) (pos : Nat) (w : Bytes) :
    (overwriteAt bs pos w).length = max bs.length (pos + w.length) := by
  unfold overwriteAt
  split
  · rename_i h
    rw [List.length_append, List.length_append, List.length_take, List.length_drop, Nat.min_eq_left h,
      Nat.max_def]
    split <;> omega
  · rw [List.length_append, List.length_append, List.length_replicate, Nat.max_eq_right (by omega)]
    omega

theorem overwriteAt_cover (bs : Bytes) (pos : Nat) (w : Bytes) (h1 : pos ≤ bs.length)
    (h2 : bs.length ≤ pos + w.length) : overwriteAt bs pos w = bs.take pos ++ w := by
  rw [overwriteAt, if_pos h1, List.drop_of_length_le h2, List.append_nil]

/-- `seekEndGo_frames_aend` behind the header the writers emit. -/
theorem seekEnd_frames_aend (n : Nat) (hn : n < 2 ^ 32) (fs : List Frame) (hv : ∀ f ∈ fs, f.Valid)
    (hno : ∀ f ∈ fs, f.ty ≠ AEND) (l : Nat) (tail : Bytes) :
    seekEnd ((signature ++ (Chunk.mk AHED (encAHED ⟨0, 0, n⟩)).encode) ++ (framesBytes fs ++ (be32 l ++ (AEND.toBytes ++ tail))))
      = .ok (28 + (framesBytes fs).length, fs.any (·.ty == ANXT)) := by
  rw [List.append_assoc, seekEnd_of_header ⟨AHED, encAHED ⟨0, 0, n⟩⟩ ⟨0, 0, n⟩ _ rfl
      (decAHED_encAHED ⟨0, 0, n⟩ (show 0 < 256 by decide) (show 0 < 256 by decide) hn), ← List.append_assoc,
    seekEndGo_frames_aend fs hv hno _ tail 28 l false _
      (by have := framesBytes_length_ge fs; simp only [List.length_append]; omega)
      (List.drop_left' (sigAHED_length n)), Bool.false_or]

theorem framesBytes_set (pre : List Frame) (f : Frame) (post : List Frame) (rest : Bytes) (j : Nat)
    (hj : j < f.body.length) (v : UInt8) :
    (framesBytes (pre ++ f :: post) ++ rest).set ((framesBytes pre).length + (8 + j)) v
      = framesBytes (pre ++ ⟨f.ty, f.body.set j v⟩ :: post) ++ rest := by
  have h8 : (be32 (f.body.length - 4) ++ f.ty.toBytes).length = 8 := by simp
  simp only [framesBytes_append, framesBytes_cons, Frame.bytes, List.append_assoc, List.length_set]
  rw [set_app_right, ← List.append_assoc (be32 _), ← h8, set_app_right, List.set_append_left _ _ hj]
  simp only [List.append_assoc]

/-- Bodies (data and CRC) are never read: the altered file is again of the form of `seekEnd_frames_aend`,
    with frames of the same types and lengths. -/
theorem seekEnd_set_body (n : Nat) (hn : n < 2 ^ 32) (pre : List Frame) (f : Frame) (post : List Frame)
    (hv : ∀ g ∈ pre ++ f :: post, g.Valid) (hno : ∀ g ∈ pre ++ f :: post, g.ty ≠ AEND) (l : Nat) (tail : Bytes)
    (j : Nat) (hj : j < f.body.length) (v : UInt8) :
    seekEnd (((signature ++ (Chunk.mk AHED (encAHED ⟨0, 0, n⟩)).encode)
        ++ (framesBytes (pre ++ f :: post) ++ (be32 l ++ (AEND.toBytes ++ tail)))).set
          (28 + ((framesBytes pre).length + (8 + j))) v)
      = seekEnd ((signature ++ (Chunk.mk AHED (encAHED ⟨0, 0, n⟩)).encode)
        ++ (framesBytes (pre ++ f :: post) ++ (be32 l ++ (AEND.toBytes ++ tail)))) := by
  rw [← sigAHED_length n, set_app_right, framesBytes_set _ _ _ _ _ hj,
    seekEnd_frames_aend n hn _
      (by simpa only [List.forall_mem_append, List.forall_mem_cons, Frame.Valid, List.length_set] using hv)
      (by simpa only [List.forall_mem_append, List.forall_mem_cons] using hno),
    seekEnd_frames_aend n hn _ hv hno]
  simp [framesBytes_append, framesBytes_cons, Frame.bytes_length]

theorem appendBytes_eq (bs : Bytes) (cs : List Chunk) :
    appendBytes bs cs
      = (seekEnd bs).map' fun p => overwriteAt bs p.1 (encodeChunks cs ++ (Chunk.mk AEND []).encode) := by
  unfold appendBytes
  cases seekEnd bs <;> rfl

theorem appendBytes_of_ok {bs : Bytes} {q : Nat} {f : Bool} (h : seekEnd bs = .ok (q, f)) (cs : List Chunk) :
    appendBytes bs cs = .ok (overwriteAt bs q (encodeChunks cs ++ (Chunk.mk AEND []).encode)) := by
  rw [appendBytes_eq, h]; rfl

theorem appendBytes_ok_inv {bs out : Bytes} {cs : List Chunk} (h : appendBytes bs cs = .ok out) :
    ∃ q f, seekEnd bs = .ok (q, f) ∧ out = overwriteAt bs q (encodeChunks cs ++ (Chunk.mk AEND []).encode) := by
  rw [appendBytes_eq] at h
  cases hs : seekEnd bs with
  | ok p => rw [hs] at h; exact ⟨p.1, p.2, rfl, (Outcome.ok.inj h).symm⟩
  | _ => rw [hs] at h; cases h

/-- For EVERY file.  `hend`: nothing stands behind the AEND chunk that `seek_to_end` finds; then in both
    files the write (at least 12 bytes, the new AEND) reaches the end and replaces the tail (`overwriteAt_cover`). -/
theorem appendBytes_take (bs : Bytes) (q : Nat) (f : Bool) (h : seekEnd bs = .ok (q, f))
    (hend : bs.length ≤ q + 12) (k : Nat) (hk : q + 8 ≤ k) (cs : List Chunk) :
    appendBytes (bs.take k) cs = appendBytes bs cs := by
  have hb := seekEnd_ok_bound bs q f h
  have hw : 12 ≤ (encodeChunks cs ++ (Chunk.mk AEND []).encode).length := by
    rw [List.length_append, Chunk.encode_length]; omega
  have hs := seekEnd_take bs q f h k
  rw [if_neg (by omega)] at hs
  rw [appendBytes_of_ok hs, appendBytes_of_ok h,
    overwriteAt_cover _ _ _ (by rw [List.length_take]; omega) (by rw [List.length_take]; omega),
    overwriteAt_cover _ _ _ (by omega) (by omega), List.take_take, Nat.min_eq_left (by omega)]

theorem seekEnd_archiveBytes (n : Nat) (hn : n < 2 ^ 32) (body : List Chunk) (hfit : ChunksFit body)
    (hno : ∀ c ∈ body, c.ty ≠ AEND) :
    seekEnd (archiveBytes n body) = .ok (28 + (encodeChunks body).length, body.any (·.ty == ANXT)) := by
  rw [archiveBytes_split, AEND_encode, ← framesBytes_map_toFrame,
    seekEnd_frames_aend n hn _ (List.forall_mem_map.2 fun c hc => toFrame_valid c (hfit c hc))
      (List.forall_mem_map.2 hno), List.any_map]
  rfl

/-- When `body` ends in ANXT, that chunk PRECEDES the appended entries in the result; `groupItems` does not care
    where ANXT stands. -/
theorem appendBytes_archiveBytes (n : Nat) (hn : n < 2 ^ 32) (body : List Chunk) (hfit : ChunksFit body)
    (hno : ∀ c ∈ body, c.ty ≠ AEND) (new : List Chunk) :
    appendBytes (archiveBytes n body) new = .ok (archiveBytes n (body ++ new)) := by
  rw [appendBytes_of_ok (seekEnd_archiveBytes n hn body hfit hno),
    overwriteAt_cover _ _ _ (by rw [archiveBytes_length_chunks]; omega)
      (by rw [archiveBytes_length_chunks, List.length_append, Chunk.encode_length]; omega),
    archiveBytes_split, archiveBytes_split, ← List.append_assoc _ (encodeChunks body),
    List.take_left' (by rw [List.length_append, sigAHED_length]), encodeChunks_append]
  simp only [List.append_assoc]

end Pna.Append
