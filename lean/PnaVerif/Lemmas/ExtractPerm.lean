import PnaVerif.Model.Cli.ExtractPerm
import PnaVerif.Lemmas.ConfinedExtract
/-!
# The permission step of `pna extract --keep-permission` (for `Props/C09Perm.lean`): what `permTarget` reaches
when the destination walk is link-free and lexical
-/
namespace Pna.ExtractPerm
open Pna Pna.Fs Pna.Cli Pna.Confined

theorem extractEntryP_ok {kp ow : Bool} {cwd : Path} {outDir : Bytes} {fs fs2 : Fs} {e : XEntry} {t : PermTarget}
    (h : extractEntryP kp ow cwd outDir fs e = (fs2, none, t)) :
    extractEntry ow cwd outDir fs e = (fs2, none) ∧ t = permStep kp e.kind fs2 cwd (joinP outDir e.name) := by
  unfold extractEntryP at h
  split at h
  · rename_i fs3 he
    simp only [Prod.mk.injEq, true_and] at h
    obtain ⟨rfl, rfl⟩ := h
    exact ⟨he, rfl⟩
  · simp at h

variable {kp ow : Bool} {cwd : Path} {outDir d : Bytes} {fs fs2 : Fs} {e : XEntry}

/-- What `C09P.perm_target_inside` and `C09P.perm_target_fresh_partial` are both read off from: a step that is
    not skipped reaches the object at the lexical destination `O/name`. -/
theorem permStep_lex
    (ho : OutDir outDir d) (hs : Sane fs (cwd ++ [d])) (hn : NameOk e.name)
    (hE : extractEntry ow cwd outDir fs e = (fs2, none)) :
    permStep kp e.kind fs2 cwd (joinP outDir e.name) = .none ∨
    ((e.kind ≠ 2 ∧ e.kind ≠ 3) ∧
      ((permStep kp e.kind fs2 cwd (joinP outDir e.name) = .dir (cwd ++ [d] ++ comps e.name) ∧
          fs2.lookup (cwd ++ [d] ++ comps e.name) = some .dir) ∨
        ∃ i, permStep kp e.kind fs2 cwd (joinP outDir e.name) = .file i ∧
          fs2.lookup (cwd ++ [d] ++ comps e.name) = some (.file i))) := by
  have hgood := extractEntry_good ow cwd outDir d fs e ho hs hn
  rw [hE] at hgood
  have s2 := hgood.1.1
  unfold permStep
  split
  · exact Or.inl rfl
  · rename_i hcond
    simp only [Bool.or_eq_true, Bool.not_eq_eq_eq_not, Bool.not_true, beq_iff_eq, not_or,
      Bool.not_eq_true] at hcond
    obtain ⟨⟨⟨_, hk2⟩, hk3⟩, hlink⟩ := hcond
    have hconf := (extractEntry_ok hE).1
    obtain ⟨init, last, par, pcs, hcn, pc, hpar, hpp, hlp, hli⟩ :=
      name_shape ho hs hn hconf
    -- the destination exists, so its proper ancestors are directories
    have hlex2 : LexOk fs2 (cwd ++ [d]) [] init := lexOk_of_exists s2.closed (hcn ▸ hgood.2 rfl) pc.hdd
    -- the walk is link-free and the destination no link: `chown`/`chmod` reach the object at the lexical path
    have hdd := nodd_snoc pc.hdd pc.hlast
    have hlex := lexOk_snoc hlex2 pc.hdd pc.hlast (isLinkAt_false pc.sp s2 hdd hlink)
    rw [hcn]
    unfold permTarget
    split
    · rename_i p hr
      have hp := resolve_confined pc.sp s2 hlex hr
      rw [lexEnd_init hdd] at hp
      subst hp
      split
      · rename_i hd; exact Or.inr ⟨⟨hk2, hk3⟩, Or.inl ⟨rfl, hd⟩⟩
      · rename_i i hf; exact Or.inr ⟨⟨hk2, hk3⟩, Or.inr ⟨i, rfl, hf⟩⟩
      · exact Or.inl rfl
    · exact Or.inl rfl

end Pna.ExtractPerm
