import PnaVerif.Lemmas.ConfinedOps
import PnaVerif.Lemmas.ExtractEntry
/-!
# Confinement: `extract_entry` keeps `Sane`, is a `Step`, and when it succeeds leaves something at the lexical
destination (the archive loop follows by `extractAllWith_rel`, Props/C09Confined.lean).  Without `--overwrite`,
regular-file and directory entries only let the file system grow (`Grows`, Lemmas/Fs.lean), and a success means the
destination was absent.
-/
namespace Pna.Confined
open Pna Pna.Fs Pna.Cli

/-- the entry name has a file name and no `..` component (sanitised names satisfy this unless empty) -/
def NameOk (name : Bytes) : Prop := comps name ≠ [] ∧ [dot, dot] ∉ comps name

instance (name : Bytes) : Decidable (NameOk name) := inferInstanceAs (Decidable (_ ∧ _))

section
variable {fs fs1 fs2 : Fs} {cwd : Path} {outDir d path : Bytes} {init : List Bytes} {last : Bytes}

/-- the lexical parent has the components `init`, or all of `init ++ [l]` when `x` ends in `.` (`comps_parent_tail`) -/
theorem lexOk_init {O : Path} {x : Bytes} {l : Bytes} (hx : isAbs x = false)
    (hc : comps x = init ++ [l]) (h : LexOk fs O [] (comps ((parentP x).getD []))) : LexOk fs O [] init := by
  obtain ⟨tl, htl, he⟩ := comps_parent_tail x hx
  rcases htl with rfl | ⟨l', rfl⟩
  · rw [List.append_nil] at he
    rw [← he, hc] at h
    exact ((lexOk_append _ _ _).1 h).1
  · rw [hc] at he
    have := List.append_inj' he rfl
    rw [this.1]; exact h

/-- facts about the destination string that do not depend on the file-system state -/
structure PathCtx (d path : Bytes) (init : List Bytes) (last : Bytes) : Prop where
  sp : Spells d path (init ++ [last])
  hlast : last ≠ [dot, dot]
  hdd : [dot, dot] ∉ init

/-- what a passed `ensure_confined(outDir, parent(name))` gives for an acceptable name -/
theorem name_shape {name : Bytes} (ho : OutDir outDir d)
    (hs : Sane fs (cwd ++ [d])) (hn : NameOk name) (h : confined fs cwd outDir ((parentP name).getD []) = true) :
    ∃ init last par pcs, comps name = init ++ [last] ∧ PathCtx d (joinP outDir name) init last ∧
      parentP (joinP outDir name) = some par ∧ Spells d par pcs ∧
      LexOk fs (cwd ++ [d]) [] pcs ∧ LexOk fs (cwd ++ [d]) [] init := by
  have hnn := ncomps_ne_nil_of_comps hn.1
  have ⟨hrp, hlex⟩ := (confined_iff ho hs).1 h
  have hrel := isAbs_of_parent hnn hrp
  have hcl := List.dropLast_concat_getLast hn.1
  have hdd := hn.2
  rw [← hcl] at hdd
  simp only [List.mem_append, List.mem_singleton, not_or] at hdd
  have hj := ho.comps_join name hrel
  rw [← hcl] at hj
  obtain ⟨par, hp, hpp⟩ := ho.parent_join name hrel hnn
  exact ⟨_, _, par, _, hcl.symm, ⟨hj, Ne.symm hdd.2, hdd.1⟩, hp, hpp, hlex, lexOk_init hrel hcl.symm hlex⟩

/-- `b` stands for either condition under which `extract_entry` removes the destination first: `isLink`, or
    `overwrite && (exists || isLink)` -/
theorem remove_step
    (pc : PathCtx d path init last) (hs : Sane fs1 (cwd ++ [d])) (hl : LexOk fs1 (cwd ++ [d]) [] init)
    (b : Fs → Bool) :
    let r2 := step (fs1, none) (fun fs => if b fs then fs.remove cwd path else .ok fs)
    Sane r2.1 (cwd ++ [d]) ∧ Step (cwd ++ [d]) fs1 r2.1 ∧ Mono fs1 r2.1 ∧
      (r2.2 = none → b fs1 = true → r2.1.lookup (cwd ++ [d] ++ (init ++ [last])) = none) := by
  intro r2
  cases hb : b fs1 with
  | false =>
    have : r2 = (fs1, none) := by simp [r2, step, hb]
    rw [this]
    exact ⟨hs, Step.refl _ _, Mono.refl _, fun _ h => by cases h⟩
  | true =>
    cases hrem : fs1.remove cwd path with
    | error e =>
      have : r2 = (fs1, some (.fs e)) := by simp [r2, step, hb, hrem]
      rw [this]
      exact ⟨hs, Step.refl _ _, Mono.refl _, fun h => by cases h⟩
    | ok fs2 =>
      have : r2 = (fs2, none) := by simp [r2, step, hb, hrem]
      rw [this]
      have ⟨⟨h1, h2, h3⟩, h4⟩ := remove_confined pc.sp pc.hlast hs hl hrem
      rw [lexEnd_init pc.hdd, List.append_assoc] at h4
      exact ⟨h1, h2, h3, fun _ _ => h4⟩

/-- the shape the four kinds share: the conditional `remove(path)`, then one operation `g` (`File::create`,
    `create_dir_all`, `symlink`, `hard_link`) that is confined and puts something at the destination -/
theorem tail_good
    (pc : PathCtx d path init last) (hs : Sane fs1 (cwd ++ [d])) (hl : LexOk fs1 (cwd ++ [d]) [] init)
    (b : Fs → Bool) (g : Fs → Except FsErr Fs)
    (hg : ∀ fs2 fs3, Sane fs2 (cwd ++ [d]) → Mono fs1 fs2 →
      (b fs1 = true → fs2.lookup (cwd ++ [d] ++ (init ++ [last])) = none) → g fs2 = .ok fs3 →
      (Sane fs3 (cwd ++ [d]) ∧ Step (cwd ++ [d]) fs2 fs3) ∧ (fs3.lookup (cwd ++ [d] ++ (init ++ [last]))).isSome) :
    let r := step (step (fs1, none) (fun fs => if b fs then fs.remove cwd path else .ok fs)) g
    (Sane r.1 (cwd ++ [d]) ∧ Step (cwd ++ [d]) fs1 r.1) ∧
      (r.2 = none → (r.1.lookup (cwd ++ [d] ++ (init ++ [last]))).isSome) := by
  intro r
  have ⟨h1, h2, h3, h4⟩ := remove_step pc hs hl b
  have := step_rel (Keeps (cwd ++ [d])) (Keeps.refl _) _ g (fun hn fs3 hf _ => (hg _ fs3 h1 h3 (h4 hn) hf).1) h1
  exact ⟨⟨this.1, h2.trans this.2⟩, fun hn => (hg _ _ h1 h3 (h4 (step_none hn).1) (step_none hn).2).2⟩

/-- after `if isLink { remove(path) }` the whole destination walk is link-free -/
theorem dest_lexOk
    (pc : PathCtx d path init last) (hl : LexOk fs1 (cwd ++ [d]) [] init) (hm : Mono fs1 fs2) (isLink : Bool)
    (hnl : isLink = false → NotLink fs1 (cwd ++ [d] ++ (init ++ [last])))
    (h0 : isLink = true → fs2.lookup (cwd ++ [d] ++ (init ++ [last])) = none) :
    LexOk fs2 (cwd ++ [d]) [] (init ++ [last]) := by
  refine lexOk_snoc (hl.mono hm _ _) pc.hdd pc.hlast ?_
  cases hb : isLink with
  | false => exact hm _ (hnl hb)
  | true =>
    intro t ht
    rw [h0 hb] at ht; cases ht

/-- what the two checks on a hard-link source `x` give -/
theorem src_shape {x : Bytes} (ho : OutDir outDir d)
    (hs : Sane fs (cwd ++ [d])) (h : confined fs cwd outDir ((parentP x).getD []) = true)
    (hnf : noFileName x = false) :
    ∃ ss sc, sc ≠ [dot, dot] ∧ Spells d (joinP outDir x) (ss ++ [sc]) ∧ LexOk fs (cwd ++ [d]) [] ss := by
  have hne : comps x ≠ [] := by
    intro e; simp [noFileName, e] at hnf
  have hlast : (comps x).getLast hne ≠ [dot, dot] := by
    intro e
    have : (comps x).getLast? = some [dot, dot] := by rw [List.getLast?_eq_some_getLast hne, e]
    simp [noFileName, this] at hnf
  have ⟨hrp, hlex⟩ := (confined_iff ho hs).1 h
  have hrel := isAbs_of_parent (ncomps_ne_nil_of_comps hne) hrp
  have hcl := List.dropLast_concat_getLast hne
  have hj := ho.comps_join x hrel
  rw [← hcl] at hj
  exact ⟨_, _, hlast, hj, lexOk_init hrel hcl.symm hlex⟩

theorem hardTail_good {e : XEntry}
    (ho : OutDir outDir d) (pc : PathCtx d (joinP outDir e.name) init last) (hs : Sane fs1 (cwd ++ [d]))
    (hl : LexOk fs1 (cwd ++ [d]) [] init) (ow l : Bool) :
    (Sane (hardTail ow cwd outDir e l fs1).1 (cwd ++ [d]) ∧ Step (cwd ++ [d]) fs1 (hardTail ow cwd outDir e l fs1).1) ∧
      ((hardTail ow cwd outDir e l fs1).2 = none →
        ((hardTail ow cwd outDir e l fs1).1.lookup (cwd ++ [d] ++ (init ++ [last]))).isSome) := by
  unfold hardTail
  dsimp only
  split
  · exact ⟨⟨hs, Step.refl _ _⟩, fun h => by cases h⟩
  · rename_i hc
    split
    · exact ⟨⟨hs, Step.refl _ _⟩, fun h => by cases h⟩
    · rename_i hnf
      obtain ⟨ss, sc, hsc, ssp, hsl⟩ := src_shape ho hs (by simpa using hc) (by simpa using hnf)
      exact tail_good pc hs hl _ _ (fun fs2 fs3 s2 m2 _ hf =>
        lexEnd_init pc.hdd ▸ hardLink_confined pc.sp pc.hlast ssp hsc s2 (hl.mono m2 _ _) (hsl.mono m2 _ _) hf)

end

/-- The passed guard gives `name_shape`; `create_dir_all(parent)` is confined and `Mono`, so `LexOk` of `init`
    holds after it; each kind is then a `tail_good` (kind 3 inside `hardTail_good`). -/
theorem extractEntry_good (ow : Bool) (cwd : Path) (outDir d : Bytes) (fs : Fs) (e : XEntry)
    (ho : OutDir outDir d) (hs : Sane fs (cwd ++ [d])) (hn : NameOk e.name) :
    (Sane (extractEntry ow cwd outDir fs e).1 (cwd ++ [d]) ∧
      Step (cwd ++ [d]) fs (extractEntry ow cwd outDir fs e).1) ∧
    ((extractEntry ow cwd outDir fs e).2 = none →
      ((extractEntry ow cwd outDir fs e).1.lookup (cwd ++ [d] ++ comps e.name)).isSome) := by
  refine extractEntry_state (fun r => (Sane r.1 (cwd ++ [d]) ∧ Step (cwd ++ [d]) fs r.1) ∧
      (r.2 = none → (r.1.lookup (cwd ++ [d] ++ comps e.name)).isSome))
    (fun _ => ⟨⟨hs, Step.refl _ _⟩, fun h => by cases h⟩) (fun hconf _ => ?_)
  obtain ⟨init, last, par, pcs, hcn, pc, hpar, hpp, hlp, hli⟩ :=
    name_shape ho hs hn hconf
  rw [hcn]
  cases hcd : fs.createDirAll cwd par with
  | error err =>
    rw [mkParent_error hpar hcd, body_error]
    exact ⟨⟨hs, Step.refl _ _⟩, fun h => by cases h⟩
  | ok fs1 =>
    rw [mkParent_ok hpar hcd]
    have ⟨s1, t1, m1, _⟩ := createDirAll_confined hpp hs hlp hcd
    have hli1 := hli.mono m1 _ _
    have hnl : isLinkAt fs cwd (joinP outDir e.name) = false →
        NotLink fs1 (cwd ++ [d] ++ (init ++ [last])) := fun h =>
      m1 _ (isLinkAt_false pc.sp hs (nodd_snoc pc.hdd pc.hlast) h)
    have hend := lexEnd_init (nodd_snoc pc.hdd pc.hlast)
    -- each kind is a `Step` from `fs1`
    refine And.imp (And.imp id t1.trans) id ?_
    unfold body
    split
    · exact tail_good pc s1 hli1 (fun _ => isLinkAt fs cwd (joinP outDir e.name)) _
        (fun fs2 fs3 s2 m2 h0 hf => hend ▸ createFile_confined e.content pc.sp s2 (dest_lexOk pc hli1 m2 _ hnl h0)
          (by rw [hend]; simp) hf)
    · exact tail_good pc s1 hli1 (fun _ => isLinkAt fs cwd (joinP outDir e.name)) _
        (fun fs2 fs3 s2 m2 h0 hf =>
          have h := createDirAll_confined pc.sp s2 (dest_lexOk pc hli1 m2 _ hnl h0) hf
          ⟨⟨h.1, h.2.1⟩, by rw [← hend, h.2.2.2]; rfl⟩)
    · exact tail_good pc s1 hli1 _ _ (fun fs2 fs3 s2 m2 _ hf =>
        lexEnd_init pc.hdd ▸ symlink_confined e.content pc.sp pc.hlast s2 (hli1.mono m2 _ _) hf)
    · exact hardTail_good ho pc s1 hli1 ow (isLinkAt fs cwd (joinP outDir e.name))

/-- a name without components designates the output directory (or the root): it exists -/
theorem existsP_nocomps {fs : Fs} {cwd : Path} {outDir d name : Bytes} (ho : OutDir outDir d)
    (hs : Sane fs (cwd ++ [d])) (hc : comps name = []) : fs.existsP cwd (joinP outDir name) = true := by
  unfold Fs.existsP
  cases ha : isAbs name with
  | true =>
    rw [joinP_abs _ _ ha]
    simp only [ha, hc, if_true, fuelFor_succ]
    rw [resolve_nil_pos _ _ _ _ (by omega)]
    simp [Fs.lookup]
  | false =>
    have sp := ho.comps_join name ha
    rw [hc] at sp
    rw [sp.resolve hs, resolve_nil_pos _ _ _ _ (by omega)]
    simp [hs.odir]

theorem extractEntry_nocomps (cwd : Path) (outDir d : Bytes) (fs : Fs) (e : XEntry)
    (ho : OutDir outDir d) (hs : Sane fs (cwd ++ [d])) (hc : comps e.name = []) :
    (extractEntry false cwd outDir fs e).1 = fs :=
  extractEntry_state (·.1 = fs) (fun _ => rfl)
    (fun _ h => by simp [existsP_nocomps ho hs hc] at h)

/-- the hypothesis on entry names: no `..` component, and a file name unless `--overwrite` is off -/
def NameOkW (ow : Bool) (name : Bytes) : Prop := [dot, dot] ∉ comps name ∧ (comps name ≠ [] ∨ ow = false)

instance (ow : Bool) (name : Bytes) : Decidable (NameOkW ow name) := inferInstanceAs (Decidable (_ ∧ _))

theorem extractEntry_goodW (ow : Bool) (cwd : Path) (outDir d : Bytes) (fs : Fs) (e : XEntry)
    (ho : OutDir outDir d) (hs : Sane fs (cwd ++ [d])) (hn : NameOkW ow e.name) :
    Sane (extractEntry ow cwd outDir fs e).1 (cwd ++ [d]) ∧
      Step (cwd ++ [d]) fs (extractEntry ow cwd outDir fs e).1 := by
  by_cases hc : comps e.name = []
  · rcases hn.2 with h | h
    · exact absurd hc h
    · subst h
      rw [extractEntry_nocomps cwd outDir d fs e ho hs hc]
      exact ⟨hs, Step.refl _ _⟩
  · exact (extractEntry_good ow cwd outDir d fs e ho hs ⟨hc, hn.1⟩).1

theorem extractEntry_grows01 (cwd : Path) (outDir : Bytes) (fs : Fs) (e : XEntry)
    (hk : e.kind = 0 ∨ e.kind = 1) : Grows fs (extractEntry false cwd outDir fs e).1 := by
  refine extractEntry_state (fun r => Grows fs r.1) (fun _ => Grows.refl _) (fun _ hex => ?_)
  -- the guards passed without `--overwrite`: no link is in the way, nothing is removed
  have hl : isLinkAt fs cwd (joinP outDir e.name) = false := by simp at hex; exact hex.2
  have h0 : Grows fs (mkParent cwd (joinP outDir e.name) fs).1 := by
    unfold mkParent
    split
    · exact step_rel Grows Grows.refl (fs, none) _ (fun _ b hb => createDirAll_grows hb)
    · exact Grows.refl _
  unfold body
  rw [hl]
  simp only [Bool.false_eq_true, if_false, step_id]
  rcases hk with hk | hk <;> rw [hk]
  · exact h0.trans (step_rel Grows Grows.refl _ _ (fun _ c hc => createFile_grows hc))
  · exact h0.trans (step_rel Grows Grows.refl _ _ (fun _ c hc => createDirAll_grows hc))

section
variable {ow : Bool} {cwd : Path} {outDir d : Bytes} {fs fs2 : Fs} {e : XEntry}

theorem extractEntry_ok_absent (h : extractEntry false cwd outDir fs e = (fs2, none)) :
    fs.existsP cwd (joinP outDir e.name) = false ∧ isLinkAt fs cwd (joinP outDir e.name) = false := by
  simpa using (extractEntry_ok h).2.1

theorem dest_absent
    (ho : OutDir outDir d) (hs : Sane fs (cwd ++ [d])) (hn : NameOk e.name)
    (hE : extractEntry false cwd outDir fs e = (fs2, none)) :
    fs.lookup (cwd ++ [d] ++ comps e.name) = none := by
  have hconf := (extractEntry_ok hE).1
  obtain ⟨init, last, par, pcs, hcn, pc, hpar, hpp, hlp, hli⟩ :=
    name_shape ho hs hn hconf
  have ⟨hex, hl⟩ := extractEntry_ok_absent hE
  have hdd := nodd_snoc pc.hdd pc.hlast
  rw [hcn]
  -- `exists()` and the link test both negative: were anything there, `exists()` would have found it
  cases hlk : fs.lookup (cwd ++ [d] ++ (init ++ [last])) with
  | none => rfl
  | some n =>
    unfold Fs.existsP at hex
    rw [pc.sp.resolve hs, resolve_below hs.closed true hdd (hs.parent (by rw [hlk]; rfl))
      (fun _ => isLinkAt_false pc.sp hs hdd hl)] at hex
    simp only [hlk, Option.isSome_some] at hex
    cases hex

/-- the two acceptable-name cases of `NameOkW`: no component at all is refused without `--overwrite` -/
theorem nameOk_of_ok
    (ho : OutDir outDir d) (hs : Sane fs (cwd ++ [d])) (hn : NameOkW ow e.name)
    (hE : extractEntry ow cwd outDir fs e = (fs2, none)) : NameOk e.name := by
  by_cases hc : comps e.name = []
  · rcases hn.2 with h | h
    · exact absurd hc h
    · subst h
      have := (extractEntry_ok_absent hE).1
      rw [existsP_nocomps ho hs hc] at this
      cases this
  · exact ⟨hc, hn.1⟩

end

end Pna.Confined
