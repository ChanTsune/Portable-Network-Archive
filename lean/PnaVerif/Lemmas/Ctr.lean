import PnaVerif.Lemmas.ListFacts
import PnaVerif.Model.Cipher
/-! CTR stream cipher layer: the keystream is applied position-wise, so the writer is insensitive
    to the partition into `write` calls and the reader to buffer sizes and short reads. -/
namespace Pna

section
variable (P : BlockPerm) (k iv : Bytes)

theorem ctrApply_nil (pos : Nat) : ctrApply P k iv pos [] = [] := rfl

theorem ctrApply_cons (pos : Nat) (b : UInt8) (d : Bytes) :
    ctrApply P k iv pos (b :: d)
      = (b ^^^ ctrKeystream P k iv pos) :: ctrApply P k iv (pos + 1) d := by
  unfold ctrApply
  rw [List.zipIdx_cons', List.map_cons, List.map_map]
  refine congrArg _ (List.map_congr_left fun x _ => ?_)
  show x.1 ^^^ ctrKeystream P k iv (pos + x.2 + 1) = _
  rw [Nat.add_right_comm]

theorem ctrApply_length (pos : Nat) (d : Bytes) :
    (ctrApply P k iv pos d).length = d.length := by
  rw [ctrApply, List.length_map, List.length_zipIdx]

theorem ctrApply_getElem? (pos : Nat) (d : Bytes) (i : Nat) :
    (ctrApply P k iv pos d)[i]? = d[i]?.map (· ^^^ ctrKeystream P k iv (pos + i)) := by
  rw [ctrApply, List.getElem?_map, List.getElem?_zipIdx, Option.map_map, Nat.zero_add]
  rfl

theorem ctrApply_append (pos : Nat) (a b : Bytes) :
    ctrApply P k iv pos (a ++ b) = ctrApply P k iv pos a ++ ctrApply P k iv (pos + a.length) b := by
  induction a generalizing pos with
  | nil => rfl
  | cons x a ih =>
    rw [List.cons_append, ctrApply_cons, ctrApply_cons, ih, List.cons_append, List.length_cons]
    have : pos + 1 + a.length = pos + (a.length + 1) := by omega
    rw [this]

theorem ctrApply_involutive (pos : Nat) (d : Bytes) :
    ctrApply P k iv pos (ctrApply P k iv pos d) = d := by
  induction d generalizing pos with
  | nil => rfl
  | cons b d ih => rw [ctrApply_cons, ctrApply_cons, ih, UInt8.xor_xor_cancel_right']

theorem ctrApply_take (pos : Nat) (d : Bytes) (m : Nat) :
    (ctrApply P k iv pos d).take m = ctrApply P k iv pos (d.take m) := by
  induction d generalizing pos m with
  | nil => rw [List.take_nil, ctrApply_nil, List.take_nil]
  | cons b d ih =>
    cases m with
    | zero => rfl
    | succ m => rw [ctrApply_cons, List.take_succ_cons, List.take_succ_cons, ctrApply_cons, ih]

theorem ctrWriterRun_nil (P : BlockPerm) (k iv : Bytes) (pos : Nat) :
    ctrWriterRun P k iv pos [] = [] := rfl

theorem ctrWriterRun_cons (pos : Nat) (w : Bytes) (ws : List Bytes) :
    ctrWriterRun P k iv pos (w :: ws)
      = ctrApply P k iv pos w :: ctrWriterRun P k iv (pos + w.length) ws := rfl

theorem ctrWriterRun_lengths (P : BlockPerm) (k iv : Bytes) (pos : Nat) (ws : List Bytes) :
    (ctrWriterRun P k iv pos ws).map List.length = ws.map List.length := by
  induction ws generalizing pos with
  | nil => rfl
  | cons w ws ih =>
    rw [ctrWriterRun_cons, List.map_cons, List.map_cons, ih, ctrApply_length]

theorem ctrWriterRun_flatten (pos : Nat) (ws : List Bytes) :
    (ctrWriterRun P k iv pos ws).flatten = ctrApply P k iv pos ws.flatten := by
  induction ws generalizing pos with
  | nil => rfl
  | cons w ws ih =>
    rw [ctrWriterRun_cons, List.flatten_cons, List.flatten_cons, ih, ctrApply_append]

/-- the `lim` of `CtrR.run` -/
def CtrR.lim (n : Nat) (cuts : List Nat) : Nat :=
  match cuts with | [] => n | c :: _ => min n (max c 1)

theorem CtrR.run_nil (s : CtrR) (cuts : List Nat) :
    CtrR.run P k iv s [] cuts = [] := by
  unfold CtrR.run; rfl

theorem CtrR.run_cons (s : CtrR) (n : Nat) (ns cuts : List Nat) :
    CtrR.run P k iv s (n :: ns) cuts
      = ctrApply P k iv s.pos (s.inner.take (CtrR.lim n cuts))
        :: CtrR.run P k iv ⟨s.inner.drop (CtrR.lim n cuts),
             s.pos + (s.inner.take (CtrR.lim n cuts)).length⟩ ns cuts.tail := by
  rw [CtrR.run.eq_def]; rfl

theorem CtrR.run_prefix (s : CtrR) (sched cuts : List Nat) :
    ∃ m, (CtrR.run P k iv s sched cuts).flatten = ctrApply P k iv s.pos (s.inner.take m) := by
  induction sched generalizing s cuts with
  | nil => exact ⟨0, by rw [CtrR.run_nil]; rfl⟩
  | cons n ns ih =>
    obtain ⟨m, hm⟩ := ih ⟨s.inner.drop (CtrR.lim n cuts),
      s.pos + (s.inner.take (CtrR.lim n cuts)).length⟩ cuts.tail
    refine ⟨CtrR.lim n cuts + m, ?_⟩
    rw [CtrR.run_cons, List.flatten_cons, hm, List.take_add, ctrApply_append]

end

/-- Only a prefix: `m` has no lower bound (`sched = []` gives `m = 0`).  How far a schedule gets is not
    stated for CTR (for CBC it is: `C01.cbc_reader_completes`). -/
theorem ctr_roundtrip_prefix (P : BlockPerm) (k iv : Bytes) (ws : List Bytes) (sched cuts : List Nat) :
    ∃ m, (CtrR.run P k iv ⟨(ctrWriterRun P k iv 0 ws).flatten, 0⟩ sched cuts).flatten
      = ws.flatten.take m := by
  obtain ⟨m, hm⟩ := CtrR.run_prefix P k iv ⟨(ctrWriterRun P k iv 0 ws).flatten, 0⟩ sched cuts
  refine ⟨m, ?_⟩
  rw [hm]
  show ctrApply P k iv 0 ((ctrWriterRun P k iv 0 ws).flatten.take m) = _
  rw [ctrWriterRun_flatten, ctrApply_take, ctrApply_involutive]

end Pna
