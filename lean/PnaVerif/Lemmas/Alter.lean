import PnaVerif.Lemmas.ArchiveRt
import PnaVerif.Lemmas.Grouping
/-!
  C05 at archive level: one altered byte of a written chunk stream / archive.  The iterator returns the chunks before
  the altered one unchanged and goes on with the altered remainder (`chunksStream_set`: position arithmetic and
  `chunksStream_append`).  An altered byte outside the length field makes that chunk `InvalidData`
  (`decodeStream_alter`); an altered length byte only ensures that whatever is decoded is not the original chunk
  (`decodeStream_alter_len`; both in Lemmas/Chunk).  `readArchive_alter_core` is the entry reader on the resulting token list.
-/
namespace Pna

theorem chunksStream_set (pre : List Chunk) (c : Chunk) (post : List Chunk) (rest : Bytes)
    (hfit : ChunksFit pre) (hno : ∀ c ∈ pre, c.ty ≠ ChunkType.AEND) (j : Nat) (v : UInt8) :
    chunksStream ((signature ++ encodeChunks (pre ++ c :: post) ++ rest).set (8 + (encodeChunks pre).length + j) v)
      = (pre ++ (chunksStream (signature ++ (c.encode ++ (encodeChunks post ++ rest)).set j v)).1,
          (chunksStream (signature ++ (c.encode ++ (encodeChunks post ++ rest)).set j v)).2) := by
  rw [encodeChunks_append, encodeChunks_cons]
  simp only [List.append_assoc]
  rw [List.set_append_right _ _ (by rw [signature_length]; omega),
    List.set_append_right _ _ (by rw [signature_length]; omega),
    show 8 + (encodeChunks pre).length + j - signature.length - (encodeChunks pre).length = j by rw [signature_length]; omega,
    chunksStream_append pre _ hfit hno]

theorem chunksStream_alter_detected_split (pre : List Chunk) (c : Chunk) (post : List Chunk) (rest : Bytes)
    (hfit : ChunksFit pre) (hno : ∀ c ∈ pre, c.ty ≠ ChunkType.AEND) (hc : c.data.length < 2 ^ 32)
    (j : Nat) (hj4 : 4 ≤ j) (hj : j < c.encode.length) (v : UInt8) (hv : v ≠ c.encode[j]) :
    chunksStream ((signature ++ encodeChunks (pre ++ c :: post) ++ rest).set
        (8 + (encodeChunks pre).length + j) v) = (pre, .error .invalidData) := by
  rw [chunksStream_set pre c post rest hfit hno, chunksStream_error _ _ (decodeStream_alter c _ hc j hj4 hj v hv)]
  simp

/-- The archive's chunk list is `AHED :: (complete items ++ tail) ++ c :: post`, where `tail` closes no item (`hg`),
    and a non-length byte of `c` is altered (`hj4`).  The tokeniser then returns the chunks before `c` and
    `InvalidData`; the reader groups them into the complete items.  20 in `hpos`: the AHED chunk. -/
theorem readArchive_alter_core (n : Nat) (hn : n < 2 ^ 32) (items : List (List Chunk)) (next : Bool)
    (its : List (List Chunk)) (tail : List Chunk) (c : Chunk) (post : List Chunk)
    (hsplit : C14L.archiveChunks n items next
      = (⟨ChunkType.AHED, encAHED ⟨0, 0, n⟩⟩ :: (its.flatten ++ tail)) ++ c :: post)
    (hw : ∀ it ∈ its, ItemWF it) (hfit : ChunksFit (its.flatten ++ tail))
    (hnoT : ∀ c ∈ tail, c.ty ≠ ChunkType.AEND) (hg : (groupItems [] false tail).1 = [])
    (hc : c.data.length < 2 ^ 32)
    (j : Nat) (hj4 : 4 ≤ j) (hj : j < c.encode.length) (v : UInt8) (hv : v ≠ c.encode[j])
    (pos : Nat) (hpos : pos = 8 + 20 + (encodeChunks (its.flatten ++ tail)).length + j) :
    (readArchiveStream ((encodeArchive n items next).set pos v)).rawItems = its ∧
    (readArchiveStream ((encodeArchive n items next).set pos v)).entries = (parseItems its).1 ∧
    (readArchiveStream ((encodeArchive n items next).set pos v)).status.isOk = false ∧
    ((parseItems its).2 = .ok () →
      (readArchiveStream ((encodeArchive n items next).set pos v)).status = .error .invalidData) := by
  have hp : pos = 8 + (encodeChunks (⟨ChunkType.AHED, encAHED ⟨0, 0, n⟩⟩ :: (its.flatten ++ tail))).length + j := by
    rw [hpos, encodeChunks_cons, List.length_append, AHED_encode_length]
    omega
  have htok : chunksStream ((encodeArchive n items next).set pos v)
      = (⟨ChunkType.AHED, encAHED ⟨0, 0, n⟩⟩ :: (its.flatten ++ tail), .error .invalidData) := by
    -- `← List.append_nil`: the `++ rest` of `chunksStream_alter_detected_split`, with `rest := []`
    rw [encodeArchive_eq, hsplit, hp, ← List.append_nil (signature ++ _)]
    refine chunksStream_alter_detected_split _ c post [] ?_ ?_ hc j hj4 hj v hv
    · exact List.forall_mem_cons.mpr ⟨by simp [encAHED_length], hfit⟩
    · exact List.forall_mem_cons.mpr
        ⟨(by decide : ChunkType.AHED ≠ ChunkType.AEND), List.forall_mem_append.mpr ⟨(items_clean hw).noAEND, hnoT⟩⟩
  unfold readArchiveStream
  rw [readArchiveWith_tokens _ _ _ hn htok, groupItems_append_proj _ _ (items_clean hw).noAEND,
    groupItems_flatten_items its hw, hg, List.append_nil]
  rcases parseItems its with ⟨es, _ | _ | _⟩
  · exact ⟨rfl, rfl, rfl, fun _ => rfl⟩
  · exact ⟨rfl, rfl, rfl, fun h => nomatch h⟩
  · exact ⟨rfl, rfl, rfl, fun h => nomatch h⟩

end Pna
