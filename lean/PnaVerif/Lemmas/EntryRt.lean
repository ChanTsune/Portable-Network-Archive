import PnaVerif.Lemmas.ArchiveRt
import PnaVerif.Lemmas.Reser
/-!
  Archive round trip at entry level: `parseEntry` inverts `serEntry` up to the re-cut of the data slices
  (`parseEntry_serEntry`, from `parseN_serN` and `parseS_serS`), hence reading an archive written from well-formed
  entries returns those entries (`readArchive_encode`).
-/
namespace Pna
open ChunkType

def ReadEntry.recut : ReadEntry → ReadEntry
  | .normal e => .normal e.recut
  | .solid s => .solid s

def ReadEntry.WF : ReadEntry → Prop
  | .normal e => e.WF
  | .solid s => s.WF

def ReadEntry.extra : ReadEntry → List Chunk
  | .normal e => e.extra
  | .solid s => s.extra

theorem serEntry_ItemWF (e : ReadEntry) (hx : NoMarkers e.extra) : ItemWF (serEntry e) := by
  cases e with
  | normal e => exact serN_ItemWF e hx
  | solid s => exact serS_ItemWF s hx

theorem parseEntry_serEntry (e : ReadEntry) (h : e.WF) : parseEntry (serEntry e) = .ok e.recut := by
  cases e with
  | normal e =>
    show parseEntry (serN e) = _
    unfold parseEntry
    rw [serN_head]
    simp only
    rw [parseN_serN e h]
    rfl
  | solid s =>
    show parseEntry (serS s) = _
    unfold parseEntry
    rw [serS_head]
    simp only
    rw [parseS_serS s h]
    rfl

theorem parseItems_serEntry (es : List ReadEntry) (hw : ∀ e ∈ es, e.WF) :
    parseItems (es.map serEntry) = (es.map ReadEntry.recut, .ok ()) := by
  induction es with
  | nil => rfl
  | cons e es ih =>
    rw [List.map_cons, parseItems, parseEntry_serEntry e (hw e (by simp))]
    simp only
    rw [ih (fun e he => hw e (by simp [he]))]
    rfl

/-- Archive round trip (`C14.strict_decoder_agrees`; the C01 capstone builds on it).  `hx` is needed: an entry with a
    structural marker among its uninterpreted `extra` chunks is not read back as one item (head comment of
    `Lemmas/Grouping.lean`). -/
theorem readArchive_encode (n : Nat) (hn : n < 2 ^ 32) (es : List ReadEntry) (hw : ∀ e ∈ es, e.WF)
    (hx : ∀ e ∈ es, NoMarkers e.extra)
    (hfit : ChunksFit (es.flatMap serEntry)) (next : Bool) :
    let r := readArchiveStream (encodeArchive n (es.map serEntry) next)
    r.entries = es.map ReadEntry.recut ∧ r.status = .ok () ∧ r.next = next ∧ r.carry = [] ∧
      r.header = some ⟨0, 0, n⟩ ∧ r.rawItems = es.map serEntry := by
  intro r
  have hr : r = _ := readArchiveWith_encodeArchive n hn (es.map serEntry)
    (List.forall_mem_map.mpr fun e he => serEntry_ItemWF e (hx e he))
    (by rw [← List.flatMap_def]; exact hfit) next
  rw [parseItems_serEntry es hw] at hr
  rw [hr]
  exact ⟨rfl, rfl, rfl, rfl, rfl, rfl⟩

end Pna
