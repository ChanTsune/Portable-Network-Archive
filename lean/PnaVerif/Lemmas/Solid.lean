import PnaVerif.Model.Solid
import PnaVerif.Lemmas.Chunk
import PnaVerif.Lemmas.NoPanic
import PnaVerif.Lemmas.Reser
import PnaVerif.Lemmas.ArchiveRt
/-!
  The entry iterator inside a solid block (`Model/Solid.lean`: `decodeIn`, `collectEntry`, `solidIter`,
  `solidEntries`), after both `fix:` commits (stop after a stream error; a stream that ends inside an entry is an
  error, not a silent end).

  A gathered entry consumes at least 12 bytes, so any fuel above the number of remaining bytes gives the same
  iteration (`solidIter_fuel`) and `solidEntries` unfolds to itself (`solidEntries_step`): what follows never mentions
  fuel.  `solidTrace` is the same iteration with stream errors tagged, to say that a stream error can only be the
  last item.  Round trip and cut go one `next()` at a time (`collectEntry_encode` / `_take_eof`, then
  `solidEntries_entry` / `_cut`); `solidEntries_append` composes them over whatever follows the written entries.
-/
namespace Pna
open ChunkType

theorem decodeIn_mk_ok (bs : Bytes) (t : Option Err) (c : Chunk) (r : Bytes)
    (h : decodeStream bs = .ok (c, r)) : decodeIn ⟨bs, t⟩ = .ok (c, ⟨r, t⟩) := by
  unfold decodeIn
  simp only [h]

theorem decodeIn_mk_eof (bs : Bytes) (t : Option Err) (h : decodeStream bs = .error .eof) :
    decodeIn ⟨bs, t⟩ = .error (t.getD .eof) := by
  unfold decodeIn
  simp only [h]

theorem decodeIn_ok_inv {s s' : InStream} {c : Chunk} (h : decodeIn s = .ok (c, s')) :
    decodeStream s.bytes = .ok (c, s'.bytes) ∧ s'.term = s.term := by
  unfold decodeIn at h
  split at h
  · rename_i c' r hd
    simp only [Outcome.ok.injEq, Prod.mk.injEq] at h
    obtain ⟨rfl, rfl⟩ := h
    exact ⟨hd, rfl⟩
  · cases h
  · cases h
  · cases h

theorem decodeIn_rest_lt {s s' : InStream} {c : Chunk} (h : decodeIn s = .ok (c, s')) :
    s'.bytes.length + 12 ≤ s.bytes.length :=
  decodeStream_rest_le _ _ _ (decodeIn_ok_inv h).1

theorem decodeIn_no_panic (s : InStream) (p : String) : decodeIn s ≠ .panic p := by
  unfold decodeIn
  split
  · nofun
  · nofun
  · nofun
  · exact (ne_panic (decodeStream_no_panic s.bytes) ‹_›).elim

theorem collectEntry_no_panic (fuel : Nat) (s : InStream) (acc : List Chunk) (hf : s.bytes.length < fuel)
    (p : String) : collectEntry fuel s acc ≠ .panic p := by
  fun_induction collectEntry fuel s acc with
  | case1 => omega  -- out of fuel
  | case2 => nofun  -- decode error
  | case3 _ s _ q hd => exact absurd hd (decodeIn_no_panic s q)  -- decoder panic
  | case4 => nofun  -- FEND: entry complete
  | case5 _ _ _ _ _ hd _ ih =>  -- another chunk: go on
    have := decodeIn_rest_lt hd
    exact ih (by omega)

/-- 12 bytes: a gathered entry contains at least its FEND chunk. -/
theorem collectEntry_ok_inv (fuel : Nat) (s s' : InStream) (acc cs : List Chunk)
    (h : collectEntry fuel s acc = .ok (cs, s')) :
    s'.bytes.length + 12 ≤ s.bytes.length ∧ s'.term = s.term ∧
      ∃ body last, cs = acc ++ body ++ [last] ∧ last.ty = FEND ∧ (∀ c ∈ body, c.ty ≠ FEND) ∧
        encodeChunks (body ++ [last]) ++ s'.bytes = s.bytes := by
  fun_induction collectEntry fuel s acc with
  | case1 => cases h  -- out of fuel
  | case2 => cases h  -- decode error
  | case3 => cases h  -- decoder panic
  | case4 _ s acc c s1 hd hfend =>  -- FEND: entry complete
    obtain ⟨rfl, rfl⟩ := Prod.mk.inj (Outcome.ok.inj h)
    obtain ⟨hds, hterm⟩ := decodeIn_ok_inv hd
    refine ⟨decodeIn_rest_lt hd, hterm, [], c, by simp, hfend, nofun, ?_⟩
    rw [List.nil_append, encodeChunks_singleton]
    exact (decodeStream_ok_inv _ _ _ hds).1
  | case5 _ s acc c s1 hd hnf ih =>  -- another chunk: go on
    have hlt := decodeIn_rest_lt hd
    obtain ⟨hds, hterm⟩ := decodeIn_ok_inv hd
    obtain ⟨h1, h2, body, last, hcs, hl, hb, he⟩ := ih h
    refine ⟨by omega, by rw [h2, hterm], c :: body, last, by rw [hcs]; simp, hl, ?_, ?_⟩
    · intro d hd'
      rcases List.mem_cons.mp hd' with rfl | hd'
      · exact hnf
      · exact hb d hd'
    · rw [List.cons_append, encodeChunks_cons, List.append_assoc, he]
      exact (decodeStream_ok_inv _ _ _ hds).1

theorem collectEntry_ok_lt {fuel : Nat} {s s' : InStream} {acc cs : List Chunk}
    (h : collectEntry fuel s acc = .ok (cs, s')) : s'.bytes.length + 12 ≤ s.bytes.length :=
  (collectEntry_ok_inv fuel s s' acc cs h).1

theorem solidIter_no_panic (fuel : Nat) (s : InStream) (hf : s.bytes.length < fuel) :
    ∀ o ∈ solidIter fuel s, ∀ p, o ≠ .panic p := by
  fun_induction solidIter fuel s with
  | case1 => omega  -- out of fuel
  | case2 => simp  -- no byte left, clean end of stream
  | case3 => simp  -- no byte left, terminal error of the decoder stack
  | case4 => simp  -- error while gathering an entry
  | case5 _ s _ p hp => exact absurd hp (collectEntry_no_panic _ s [] (Nat.lt_succ_self _) p)  -- panic while gathering
  | case6 _ _ _ cs _ hok ih =>  -- entry gathered: go on
    have := collectEntry_ok_lt hok
    intro o ho
    rcases List.mem_cons.mp ho with rfl | ho
    · exact isPanic_eq_false_iff.mp (parseN_no_panic cs)
    · exact ih (by omega) o ho

/-- `/ 12 + 1`: every yielded entry consumed at least 12 bytes, and at most one further item (a stream error) ends
    the iteration. -/
theorem solidIter_length (fuel : Nat) (s : InStream) (hf : s.bytes.length < fuel) :
    (solidIter fuel s).length ≤ s.bytes.length / 12 + 1 := by
  fun_induction solidIter fuel s with
  | case1 => omega  -- out of fuel
  | case2 => simp  -- no byte left, clean end of stream
  | case3 => simp  -- no byte left, terminal error
  | case4 => simp  -- error while gathering
  | case5 => simp  -- panic while gathering
  | case6 _ _ _ _ _ hok ih =>  -- entry gathered: go on
    have := collectEntry_ok_lt hok
    have := ih (by omega)
    rw [List.length_cons]
    omega

/-- `solidIter` with every item tagged: `true` exactly for a stream error (the terminal error of the decoder stack
    when no byte is left, and any error while gathering the chunks of an entry). -/
def solidTrace : Nat → InStream → List (Bool × Outcome NormalEntry)
  | 0, _ => [(false, .panic "fuel")]
  | fuel+1, s =>
    if s.bytes = [] then
      match s.term with
      | none => []
      | some e => [(true, .error e)]
    else
      match collectEntry (s.bytes.length + 1) s [] with
      | .error e => [(true, .error e)]
      | .panic p => [(false, .panic p)]
      | .ok (cs, s') => (false, parseN cs) :: solidTrace fuel s'

theorem solidTrace_snd (fuel : Nat) (s : InStream) :
    (solidTrace fuel s).map Prod.snd = solidIter fuel s := by
  fun_induction solidTrace fuel s <;> simp [solidIter, *]

/-- A stream error can only be the last item. -/
theorem solidTrace_stream_error_last (fuel : Nat) (s : InStream) :
    ∀ i, i + 1 < (solidTrace fuel s).length → ((solidTrace fuel s)[i]?.map Prod.fst) = some false := by
  fun_induction solidTrace fuel s with  -- cases as for `solidIter`
  | case6 _ _ _ _ _ _ ih =>  -- entry gathered: go on
    intro i hi
    cases i with
    | zero => rfl
    | succ i =>
      rw [List.getElem?_cons_succ]
      exact ih i (Nat.lt_of_succ_lt_succ hi)
  | _ => exact fun i hi => absurd hi (by simp)  -- the iteration ends: at most one item

theorem solidTrace_true (fuel : Nat) (s : InStream) :
    ∀ x ∈ solidTrace fuel s, x.1 = true → ∃ e, x.2 = .error e := by
  fun_induction solidTrace fuel s with
  | case6 _ _ _ _ _ _ ih =>  -- entry gathered: go on
    intro x hx
    rcases List.mem_cons.mp hx with rfl | hx
    · nofun
    · exact ih x hx
  | _ => simp  -- the iteration ends

/-- `NormalEntry.WF` already excludes FEND among the `extra` chunks (FEND is an interpreted type), so the closing FEND
    is the first FEND `serN` writes -/
theorem serNBody_no_FEND (e : NormalEntry) (h : e.WF) :
    ∀ c ∈ (⟨FHED, encFHED e.header⟩ :: serNMid e : List Chunk), c.ty ≠ FEND :=
  serNBody_forall_ty (· ≠ FEND) e (h.extra_ne rfl) (by decide)

theorem collectEntry_encode (body : List Chunk) (last : Chunk) (hlast : last.ty = FEND)
    (hbody : ∀ c ∈ body, c.ty ≠ FEND) (hfit : ChunksFit (body ++ [last])) (rest : Bytes) (t : Option Err)
    (acc : List Chunk) (fuel : Nat) (hf : (encodeChunks (body ++ [last]) ++ rest).length < fuel) :
    collectEntry fuel ⟨encodeChunks (body ++ [last]) ++ rest, t⟩ acc = .ok (acc ++ body ++ [last], ⟨rest, t⟩) := by
  induction body generalizing acc fuel with
  | nil =>
    match fuel, hf with
    | f + 1, _ =>
      rw [List.nil_append, encodeChunks_singleton, collectEntry,
        decodeIn_mk_ok _ _ _ _ (decodeStream_encode last rest (hfit last (by simp)))]
      simp [hlast]
  | cons c body ih =>
    match fuel, hf with
    | f + 1, hf =>
      rw [List.cons_append, encodeChunks_cons, List.append_assoc, collectEntry,
        decodeIn_mk_ok _ _ _ _ (decodeStream_encode c _ (hfit c (by simp)))]
      simp only
      rw [if_neg (hbody c (by simp)),
        ih (fun c hc => hbody c (by simp [hc])) (fun c hc => hfit c (by simp [hc])) (acc ++ [c]) f
          (by
            rw [List.cons_append, encodeChunks_cons, List.append_assoc, List.length_append,
              Chunk.encode_length] at hf
            omega)]
      simp

/-- `t.getD .eof`: `UnexpectedEof` when the stream ends cleanly at the cut, the terminal error of the decoder stack
    otherwise. -/
theorem collectEntry_take_eof (body : List Chunk) (last : Chunk)
    (hbody : ∀ c ∈ body, c.ty ≠ FEND) (hfit : ChunksFit (body ++ [last])) (rest : Bytes) (t : Option Err)
    (k : Nat) (hk : k < (encodeChunks (body ++ [last])).length)
    (acc : List Chunk) (fuel : Nat) (hf : ((encodeChunks (body ++ [last]) ++ rest).take k).length < fuel) :
    collectEntry fuel ⟨(encodeChunks (body ++ [last]) ++ rest).take k, t⟩ acc = .error (t.getD .eof) := by
  induction body generalizing k acc fuel with
  | nil =>
    match fuel, hf with
    | f + 1, _ =>
      rw [List.nil_append, encodeChunks_singleton] at hk ⊢
      rw [collectEntry, decodeIn_mk_eof _ _ (decodeStream_prefix_eof last rest k (hfit last (by simp)) hk)]
  | cons c body ih =>
    match fuel, hf with
    | f + 1, hf =>
      rw [List.cons_append, encodeChunks_cons] at hk
      rw [List.cons_append, encodeChunks_cons, List.append_assoc] at hf ⊢
      by_cases hk1 : k < c.encode.length
      · rw [collectEntry, decodeIn_mk_eof _ _ (decodeStream_prefix_eof c _ k (hfit c (by simp)) hk1)]
      · rw [List.take_append, List.take_of_length_le (by omega)] at hf ⊢
        rw [collectEntry, decodeIn_mk_ok _ _ _ _ (decodeStream_encode c _ (hfit c (by simp)))]
        simp only
        rw [if_neg (hbody c (by simp))]
        apply ih (fun c hc => hbody c (by simp [hc])) (fun c hc => hfit c (by simp [hc]))
        · rw [List.length_append] at hk; omega
        · have := Chunk.encode_length c
          rw [List.length_append] at hf; omega

/-- What the iterator yields when no byte is left: nothing on a clean end of stream, the terminal error of the
    decoder stack once otherwise. -/
def streamEnd (t : Option Err) : List (Outcome NormalEntry) :=
  match t with
  | none => []
  | some e => [.error e]

theorem streamEnd_none : streamEnd none = [] := rfl
theorem streamEnd_some (e : Err) : streamEnd (some e) = [.error e] := rfl

theorem solidEntries_nil (t : Option Err) : solidEntries ⟨[], t⟩ = streamEnd t := by
  unfold solidEntries solidIter streamEnd
  rw [if_pos rfl]
  cases t <;> rfl

/-- The inner `collectEntry` brings its own fuel; the outer one only has to outlast the entries. -/
theorem solidIter_fuel (f g : Nat) (s : InStream) (hf : s.bytes.length < f) (hg : s.bytes.length < g) :
    solidIter f s = solidIter g s := by
  induction f generalizing g s with
  | zero => omega
  | succ f ih =>
    match g, hg with
    | g + 1, hg =>
      unfold solidIter
      split
      · rfl
      · split
        · rfl
        · rfl
        · rename_i cs s' hok
          have := collectEntry_ok_lt hok
          rw [ih g s' (by omega) (by omega)]

/-- one `next()` on a non-empty stream, with the model's own fuel on both sides -/
theorem solidEntries_step (s : InStream) (h : s.bytes ≠ []) :
    solidEntries s =
      match collectEntry (s.bytes.length + 1) s [] with
      | .error e => [.error e]
      | .panic p => [.panic p]
      | .ok (cs, s') => parseN cs :: solidEntries s' := by
  unfold solidEntries
  rw [solidIter, if_neg h]
  cases hc : collectEntry (s.bytes.length + 1) s [] with
  | error e => rfl
  | panic p => rfl
  | ok x =>
    have := collectEntry_ok_lt (cs := x.1) (s' := x.2) hc
    simp only
    rw [solidIter_fuel _ (x.2.bytes.length + 1) x.2 (by omega) (Nat.lt_succ_self _)]

theorem solidEntries_of_ok {s s' : InStream} {cs : List Chunk}
    (h : collectEntry (s.bytes.length + 1) s [] = .ok (cs, s')) : solidEntries s = parseN cs :: solidEntries s' := by
  have hne : s.bytes ≠ [] := by
    intro h0
    have := collectEntry_ok_lt h
    rw [h0] at this
    cases this
  rw [solidEntries_step s hne, h]

theorem solidEntries_entry (e : NormalEntry) (hwf : e.WF) (hfit : ChunksFit (serN e)) (rest : Bytes)
    (t : Option Err) :
    solidEntries ⟨encodeChunks (serN e) ++ rest, t⟩ = .ok e.recut :: solidEntries ⟨rest, t⟩ := by
  have hp := parseN_serN e hwf
  rw [serN_eq_mid] at hfit hp ⊢
  rw [solidEntries_of_ok (collectEntry_encode _ ⟨FEND, []⟩ rfl (serNBody_no_FEND e hwf) hfit rest t [] _
    (Nat.lt_succ_self _)), List.nil_append, hp]

theorem solidEntries_cut (e : NormalEntry) (hwf : e.WF) (hfit : ChunksFit (serN e)) (rest : Bytes)
    (t : Option Err) (k : Nat) (hk0 : k ≠ 0) (hk : k < (encodeChunks (serN e)).length) :
    solidEntries ⟨(encodeChunks (serN e) ++ rest).take k, t⟩ = [.error (t.getD .eof)] := by
  rw [serN_eq_mid] at hfit hk ⊢
  have hne : (encodeChunks (⟨FHED, encFHED e.header⟩ :: serNMid e ++ [⟨FEND, []⟩]) ++ rest).take k ≠ [] := by
    intro h0
    have := congrArg List.length h0
    rw [List.length_take, List.length_append, List.length_nil] at this
    omega
  -- the stream is written `⟨_, t⟩`: left as `_`, unifying `hne` unfolds `encodeChunks` (40 times the cost)
  rw [solidEntries_step ⟨_, t⟩ hne]
  simp only [collectEntry_take_eof _ ⟨FEND, []⟩ (serNBody_no_FEND e hwf) hfit rest t k hk [] _
    (Nat.lt_succ_self _)]

/-- `tail` is arbitrary: more entries, a cut entry, garbage, nothing. -/
theorem solidEntries_append (es : List NormalEntry) (hwf : ∀ e ∈ es, e.WF) (hfit : ∀ e ∈ es, ChunksFit (serN e))
    (tail : Bytes) (t : Option Err) :
    solidEntries ⟨encodeChunks (es.flatMap serN) ++ tail, t⟩
      = es.map (fun e => .ok e.recut) ++ solidEntries ⟨tail, t⟩ := by
  induction es with
  | nil => rfl
  | cons e es ih =>
    rw [List.flatMap_cons, encodeChunks_append, List.append_assoc,
      solidEntries_entry e (hwf e (by simp)) (hfit e (by simp)),
      ih (fun e he => hwf e (by simp [he])) (fun e he => hfit e (by simp [he]))]
    rfl

end Pna
