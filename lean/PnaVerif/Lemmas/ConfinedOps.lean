import PnaVerif.Lemmas.ConfinedInvariant
import PnaVerif.Lemmas.ConfinedStr
/-!
# Confinement: one lemma per file-system operation, along a link-free lexical path below `O`,
and what `isLinkAt` / `ensure_confined` say about such paths
-/
namespace Pna.Confined
open Pna Pna.Fs Pna.Cli

variable {fs fs' : Fs} {cwd : Path} {d s : Bytes} {cs : List Bytes} {c : Bytes} {p : Path}

/-- each `mkdir` is a `setNode_new`, and `Mono` carries `LexOk` of the rest of the walk over to the new state -/
theorem createDirAll_go_confined {O : Path} : ∀ (fuel : Nat) (fs : Fs) (w cs : List Bytes) (fs' : Fs),
    Sane fs O → fs.lookup (O ++ w) = some .dir → LexOk fs O w cs →
    Fs.createDirAll.go fs (O ++ w) fuel cs = .ok fs' →
      Sane fs' O ∧ Step O fs fs' ∧ Mono fs fs' ∧ fs'.lookup (O ++ lexEnd w cs) = some .dir := by
  intro fuel
  induction fuel with
  | zero => intro fs w cs fs' _ _ _ h; simp [Fs.createDirAll.go] at h
  | succ fuel ih =>
    intro fs w cs fs' hs hw hl h
    cases cs with
    | nil =>
      simp [Fs.createDirAll.go] at h
      subst h; exact ⟨hs, Step.refl _ _, Mono.refl _, hw⟩
    | cons c rest =>
      simp only [Fs.createDirAll.go] at h
      unfold LexOk at hl
      unfold lexEnd
      split at h
      · rename_i hc
        rw [if_pos hc] at hl ⊢
        rw [List.dropLast_append_of_ne_nil hl.1] at h
        exact ih fs _ rest fs' hs (hs.parent (by rw [hw]; rfl)) hl.2 h
      · rename_i hc
        rw [if_neg hc] at hl ⊢
        rw [List.append_assoc] at h
        split at h
        · rename_i hnone
          have hin := below_inside O (w ++ [c])
          have hne := below_ne O (w ++ [c]) (by simp)
          have hpar : fs.lookup (O ++ (w ++ [c])).dropLast = some .dir := by
            rw [← List.append_assoc, List.dropLast_concat]; exact hw
          have ⟨s1, t1⟩ := setNode_new (n := .dir) hs hin hne hnone hpar (fun i hi => by cases hi)
          have hp : O ++ (w ++ [c]) ≠ [] := by simp
          have m1 : Mono fs (fs.setNode (O ++ (w ++ [c])) .dir) := setNode_new_mono hp (fun t e => by cases e)
          have ⟨s2, t2, m2, d2⟩ := ih _ _ rest fs' s1 (lookup_setNode_eq _ _ _ hp) (hl.2.mono m1 _ _) h
          exact ⟨s2, t1.trans t2, m1.trans m2, d2⟩
        · rename_i hdir
          exact ih fs _ rest fs' hs hdir hl.2 h
        · cases h
        · rename_i t ht; exact absurd ht (hl.1 t)

/-- a string that spells `O` then `cs` is walked from `O` on, one unit of fuel spent (`fuelFor_succ`) -/
theorem Spells.resolve (sp : Spells d s cs)
    (hs : Sane fs (cwd ++ [d])) (fl : Bool) :
    resolve fs fl (fuelFor fs) (if isAbs s then [] else cwd) (Pna.Fs.comps s) =
      resolve fs fl (39 + 8 * fs.nodes.length) (cwd ++ [d]) cs := by
  simp only [sp.rel, sp.comps, fuelFor_succ, Bool.false_eq_true, if_false]
  exact resolve_step_dir sp.nodd hs.odir

theorem Spells.createDirAll (sp : Spells d s cs) (hs : Sane fs (cwd ++ [d])) :
    fs.createDirAll cwd s = Fs.createDirAll.go fs (cwd ++ [d]) (39 + 8 * fs.nodes.length) cs := by
  unfold Fs.createDirAll
  simp only [sp.rel, sp.comps, fuelFor_succ, Bool.false_eq_true, if_false]
  simp only [Fs.createDirAll.go, if_neg sp.nodd, hs.odir]

theorem Spells.entryPath (sp : Spells d s (cs ++ [c])) (hc : c ≠ [dot, dot]) (hs : Sane fs (cwd ++ [d])) :
    Fs.entryPath fs cwd s = (Fs.resolve fs true (39 + 8 * fs.nodes.length) (cwd ++ [d]) cs).map (· ++ [c]) := by
  simp [Fs.entryPath, sp.comps, sp.rel, hc, fuelFor_succ, resolve_step_dir sp.nodd hs.odir]

theorem createDirAll_confined
    (sp : Spells d s cs)
    (hs : Sane fs (cwd ++ [d])) (hl : LexOk fs (cwd ++ [d]) [] cs) (h : fs.createDirAll cwd s = .ok fs') :
    Sane fs' (cwd ++ [d]) ∧ Step (cwd ++ [d]) fs fs' ∧ Mono fs fs' ∧
      fs'.lookup (cwd ++ [d] ++ lexEnd [] cs) = some .dir := by
  rw [sp.createDirAll hs] at h
  exact createDirAll_go_confined _ fs [] cs fs' hs (by simpa using hs.odir) hl (by simpa using h)

theorem resolve_confined {fl : Bool} (sp : Spells d s cs)
    (hs : Sane fs (cwd ++ [d])) (hl : LexOk fs (cwd ++ [d]) [] cs)
    (h : resolve fs fl (fuelFor fs) (if isAbs s then [] else cwd) (comps s) = some p) :
    p = cwd ++ [d] ++ lexEnd [] cs := by
  rw [sp.resolve hs] at h
  exact resolve_lex_eq (w := []) hl (by simpa using h)

/-- without following the last component, which need not be link-free -/
theorem resolve_confined_last (sp : Spells d s (cs ++ [c])) (hc : c ≠ [dot, dot])
    (hs : Sane fs (cwd ++ [d])) (hl : LexOk fs (cwd ++ [d]) [] cs)
    (h : resolve fs false (fuelFor fs) (if isAbs s then [] else cwd) (comps s) = some p) :
    p = cwd ++ [d] ++ lexEnd [] cs ++ [c] := by
  rw [sp.resolve hs] at h
  obtain ⟨f', hf⟩ := resolve_lex false cs _ [] [c] p hl (by simpa using h)
  exact resolve_last_nofollow hc hf

theorem createFile_confined (content : Bytes)
    (sp : Spells d s cs)
    (hs : Sane fs (cwd ++ [d])) (hl : LexOk fs (cwd ++ [d]) [] cs) (hend : lexEnd [] cs ≠ [])
    (h : fs.createFile cwd s content = .ok fs') :
    (Sane fs' (cwd ++ [d]) ∧ Step (cwd ++ [d]) fs fs') ∧
      (fs'.lookup (cwd ++ [d] ++ lexEnd [] cs)).isSome := by
  obtain ⟨p, hr, hcase⟩ := createFile_ok_iff.1 h
  obtain rfl := resolve_confined sp hs hl hr
  have hin := below_inside (cwd ++ [d]) (lexEnd [] cs)
  have hne := below_ne (cwd ++ [d]) _ hend
  rcases hcase with ⟨ino, hf, rfl⟩ | ⟨hnone, hpar, rfl⟩
  · have hm := lookup_mem (lookup_file_ne_nil hf) hf
    exact ⟨setContent_inside ino content hs (fun b hb ho hi => hs.sep _ hm b hb ino rfl hi hin ho),
      Option.isSome_iff_exists.2 ⟨_, hf⟩⟩
  · exact ⟨newFile_inside content hs hin hne hnone hpar,
      Option.isSome_iff_exists.2 ⟨_, lookup_setNode_eq fs _ _ (lookup_none_ne_nil hnone)⟩⟩

theorem remove_confined
    (sp : Spells d s (cs ++ [c])) (hc : c ≠ [dot, dot])
    (hs : Sane fs (cwd ++ [d])) (hl : LexOk fs (cwd ++ [d]) [] cs) (h : fs.remove cwd s = .ok fs') :
    (Sane fs' (cwd ++ [d]) ∧ Step (cwd ++ [d]) fs fs' ∧ Mono fs fs') ∧
    fs'.lookup (cwd ++ [d] ++ lexEnd [] cs ++ [c]) = none := by
  unfold Fs.remove at h
  split at h
  · cases h
  · rename_i p hr
    have hp := resolve_confined_last sp hc hs hl hr
    rw [List.append_assoc] at hp
    have hin : Inside (cwd ++ [d]) p := by rw [hp]; exact below_inside _ _
    have hne : p ≠ cwd ++ [d] := by rw [hp]; exact below_ne _ _ (by simp)
    have hpn : p ≠ [] := by rw [hp]; simp
    rw [List.append_assoc, ← hp]
    split at h
    · cases h
    · cases h
      refine ⟨remove_tree_inside hs hin hne, ?_⟩
      exact lookup_filter_false fs (fun q => !(p.isPrefixOf q)) p (by simp) hpn
    · rename_i hv hnd
      cases h
      refine ⟨remove_one_inside hs hin hne (by rw [hnd]; intro e; cases e; exact hv rfl), ?_⟩
      exact lookup_filter_false fs (fun q => q != p) p (by simp) hpn

theorem entryPath_confined
    (sp : Spells d s (cs ++ [c])) (hc : c ≠ [dot, dot])
    (hs : Sane fs (cwd ++ [d])) (hl : LexOk fs (cwd ++ [d]) [] cs) (h : entryPath fs cwd s = some p) :
    p = cwd ++ [d] ++ (lexEnd [] cs ++ [c]) := by
  rw [sp.entryPath hc hs, Option.map_eq_some_iff] at h
  obtain ⟨q, hq, rfl⟩ := h
  have := resolve_lex_eq (w := []) hl (by simpa using hq)
  rw [this]; simp

theorem symlink_confined (target : Bytes)
    (sp : Spells d s (cs ++ [c])) (hc : c ≠ [dot, dot])
    (hs : Sane fs (cwd ++ [d])) (hl : LexOk fs (cwd ++ [d]) [] cs) (h : fs.symlink cwd target s = .ok fs') :
    (Sane fs' (cwd ++ [d]) ∧ Step (cwd ++ [d]) fs fs') ∧
      (fs'.lookup (cwd ++ [d] ++ (lexEnd [] cs ++ [c]))).isSome := by
  obtain ⟨p, he, hnone, hpar, rfl⟩ := symlink_ok_iff.1 h
  obtain rfl := entryPath_confined sp hc hs hl he
  exact ⟨setNode_new hs (below_inside _ _) (below_ne _ _ (by simp)) hnone hpar (fun i hi => by cases hi),
    by rw [lookup_setNode_eq _ _ _ (lookup_none_ne_nil hnone)]; rfl⟩

/-- the source too is a name below a link-free lexical walk under `O`: it is inside, so by `Sane.sep` its inode
    has no name outside and may get a second one inside -/
theorem hardLink_confined {src dst : Bytes} {ss cs : List Bytes} {sc c : Bytes}
    (sd : Spells d dst (cs ++ [c])) (hc : c ≠ [dot, dot]) (ssp : Spells d src (ss ++ [sc])) (hsc : sc ≠ [dot, dot])
    (hs : Sane fs (cwd ++ [d])) (hl : LexOk fs (cwd ++ [d]) [] cs) (hsl : LexOk fs (cwd ++ [d]) [] ss)
    (h : fs.hardLink cwd src dst = .ok fs') :
    (Sane fs' (cwd ++ [d]) ∧ Step (cwd ++ [d]) fs fs') ∧
      (fs'.lookup (cwd ++ [d] ++ (lexEnd [] cs ++ [c]))).isSome := by
  unfold Fs.hardLink at h
  split at h
  · rename_i sp dp hr he
    obtain rfl := entryPath_confined sd hc hs hl he
    have hsp := resolve_confined_last ssp hsc hs hsl hr
    rw [List.append_assoc] at hsp
    have hin := below_inside (cwd ++ [d]) (lexEnd [] cs ++ [c])
    have hne := below_ne (cwd ++ [d]) (lexEnd [] cs ++ [c]) (by simp)
    have hsin : Inside (cwd ++ [d]) sp := by rw [hsp]; exact below_inside _ _
    have hnew : ∀ n, ((fs.setNode _ n).lookup (cwd ++ [d] ++ (lexEnd [] cs ++ [c]))).isSome := fun n => by
      rw [lookup_setNode_eq _ _ _ (by simp)]; rfl
    split at h
    · rename_i ino hf hnone hpar
      cases h
      have hm := lookup_mem (lookup_file_ne_nil hf) hf
      exact ⟨setNode_new hs hin hne hnone hpar (fun i hi => by
        cases hi
        exact ⟨hs.fresh _ hm ino rfl, fun b hb ho hbi => hs.sep _ hm b hb ino rfl hbi hsin ho⟩), hnew _⟩
    · rename_i t _ hnone hpar
      cases h
      exact ⟨setNode_new hs hin hne hnone hpar (fun i hi => by cases hi), hnew _⟩
    · cases h
    · cases h
    · cases h
    · cases h
  · cases h

/-- no `LexOk` is asked for: were a link at the lexical path, its ancestors would be directories (`Sane.closed`)
    and the walk would find it -/
theorem isLinkAt_false
    (sp : Spells d s cs)
    (hs : Sane fs (cwd ++ [d])) (hdd : [dot, dot] ∉ cs) (h : isLinkAt fs cwd s = false) :
    NotLink fs (cwd ++ [d] ++ cs) := by
  intro t ht
  unfold isLinkAt at h
  rw [sp.resolve hs, resolve_below hs.closed false hdd (hs.parent (by rw [ht]; rfl)) (fun e => by cases e)] at h
  simp only [ht] at h
  cases h

theorem isLinkAt_iff
    (sp : Spells d s (cs ++ [c])) (hc : c ≠ [dot, dot])
    (hs : Sane fs (cwd ++ [d])) (hl : LexOk fs (cwd ++ [d]) [] cs) (hdd : [dot, dot] ∉ cs) :
    isLinkAt fs cwd s = false ↔ NotLink fs (cwd ++ [d] ++ (cs ++ [c])) := by
  constructor
  · exact isLinkAt_false sp hs (nodd_snoc hdd hc)
  · intro hnl
    unfold isLinkAt
    split
    · rename_i p hr
      have hp := resolve_confined_last sp hc hs hl hr
      rw [lexEnd_init hdd, List.append_assoc] at hp
      split
      · rename_i t ht; exact absurd (hp ▸ ht) (hnl t)
      · rfl
    · rfl

/-- the loop of `ensure_confined` decides `LexOk`, the walk `w` so far being link-free -/
theorem confinedGo_iff {outDir : Bytes} (ho : OutDir outDir d)
    (hs : Sane fs (cwd ++ [d])) : ∀ (cs w : List Bytes), (∀ c ∈ w, GoodC c) → (∀ c ∈ cs, GoodC c) →
    [dot, dot] ∉ w → LexOk fs (cwd ++ [d]) [] w →
    (confinedGo fs cwd outDir w cs = true ↔ LexOk fs (cwd ++ [d]) w cs) := by
  intro cs
  induction cs with
  | nil => intro w _ _ _ _; exact ⟨fun _ => trivial, fun _ => rfl⟩
  | cons c r ih =>
    intro w hw hcs hdd hlw
    have hr : ∀ x ∈ r, GoodC x := fun x hx => hcs x (by simp [hx])
    unfold confinedGo LexOk
    by_cases hc : c = [dot, dot]
    · rw [if_pos hc, if_pos hc]
      by_cases hwn : w = []
      · simp [hwn]
      · rw [if_neg hwn]
        have hlw' : LexOk fs (cwd ++ [d]) [] w.dropLast := by
          rw [← List.dropLast_concat_getLast hwn] at hlw
          exact ((lexOk_append _ _ _).1 hlw).1
        have := ih w.dropLast (fun x hx => hw x ((List.dropLast_subset _) hx)) hr
          (fun hx => hdd ((List.dropLast_subset _) hx)) hlw'
        exact ⟨fun h => ⟨hwn, this.1 h⟩, fun h => this.2 h.2⟩
    · rw [if_neg hc, if_neg hc]
      have hw' : ∀ x ∈ w ++ [c], GoodC x := by
        intro x hx
        rcases List.mem_append.1 hx with hx | hx
        · exact hw x hx
        · simp at hx; subst hx; exact hcs x (by simp)
      have hx1 : isAbs (joinSlash (w ++ [c])) = false :=
        isAbs_joinSlash _ (fun x hx => ⟨(hw' x hx).1, (hw' x hx).2.2⟩)
      have sp := ho.comps_join (joinSlash (w ++ [c])) hx1
      rw [comps_joinSlash _ hw'] at sp
      have key := isLinkAt_iff sp hc hs hlw hdd
      have hih := fun hnl => ih (w ++ [c]) hw' hr (nodd_snoc hdd hc) (lexOk_snoc hlw hdd hc hnl)
      dsimp only
      constructor
      · intro h
        split at h
        · cases h
        · rename_i hlink
          have hnl := key.1 (by simpa using hlink)
          exact ⟨hnl, (hih hnl).1 h⟩
      · rintro ⟨hnl, hl⟩
        rw [key.2 hnl]
        exact (hih hnl).2 hl

theorem confined_iff {outDir rel : Bytes} (ho : OutDir outDir d)
    (hs : Sane fs (cwd ++ [d])) :
    confined fs cwd outDir rel = true ↔ isAbs rel = false ∧ LexOk fs (cwd ++ [d]) [] (comps rel) := by
  have := confinedGo_iff ho hs (comps rel) [] (by simp) (comps_good rel) (by simp) trivial
  unfold confined
  cases isAbs rel with
  | true => simp
  | false => simpa using this

end Pna.Confined
