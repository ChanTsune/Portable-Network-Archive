import PnaVerif.Model.Toy
import PnaVerif.Lemmas.Blocks
/-!
  The toy block permutation of Model/Toy.lean (the one the harness runs the repository's generic CBC/CTR code
  with): it is a lawful `BlockPerm`, so the hypotheses of the cipher theorems are satisfiable with a cipher that
  actually permutes bytes, and it consults only the first 32 bytes of its key, so two different keys can give
  the same cipher (the ← directions of the wrong-key characterisations of Props/C16Key.lean).
-/
namespace Pna.Capstone
open Pna Pna.Toy

theorem rotr3_rotl3 (x : UInt8) : rotr3 (rotl3 x) = x := by
  have h : ∀ n, n < 256 → rotr3 (rotl3 (UInt8.ofNat n)) = UInt8.ofNat n := by decide +kernel
  simpa using h x.toNat x.toNat_lt

theorem toyE_getD (k b : Bytes) (i : Nat) (hi : i < 16) :
    (E k b).getD i 0 = rotl3 (b.getD ((i + 1) % 16) 0 ^^^ k.getD i 0) + k.getD (16 + i) 0 := by
  simp [E, List.getD_eq_getElem?_getD, hi]

theorem toyE_length (k b : Bytes) : (E k b).length = 16 := by simp [E]
theorem toyD_length (k b : Bytes) : (D k b).length = 16 := by simp [D]

theorem toyD_E (k b : Bytes) (hb : b.length = 16) : D k (E k b) = b := by
  apply List.ext_getElem
  · rw [toyD_length, hb]
  · intro j h1 h2
    have hj : j < 16 := by rw [toyD_length] at h1; exact h1
    have hi : (j + 15) % 16 < 16 := Nat.mod_lt _ (by decide)
    have hij : ((j + 15) % 16 + 1) % 16 = j := by omega
    simp only [D, List.getElem_map, List.getElem_range]
    rw [toyE_getD k b _ hi, UInt8.add_sub_cancel, rotr3_rotl3, UInt8.xor_xor_cancel_right', hij]
    simp [List.getD_eq_getElem?_getD, h2]

theorem toy_lawful : Toy.perm.Lawful :=
  ⟨fun k b hb => toyD_E k b hb, fun k b _ => toyE_length k b, fun k b _ => toyD_length k b⟩

end Pna.Capstone

namespace Pna

theorem Toy.perm_append_key (k x : Bytes) (hk : k.length = 32) :
    Toy.perm.E (k ++ x) = Toy.perm.E k ∧ Toy.perm.D (k ++ x) = Toy.perm.D k := by
  have hg : ∀ i, i < 32 → (k ++ x).getD i 0 = k.getD i 0 := fun i hi => by
    rw [List.getD_eq_getElem?_getD, List.getD_eq_getElem?_getD, List.getElem?_append_left (by omega)]
  constructor
  · funext b
    show Toy.E (k ++ x) b = Toy.E k b
    unfold Toy.E
    refine List.map_congr_left fun i hi => ?_
    have := List.mem_range.mp hi
    show Toy.rotl3 (_ ^^^ (k ++ x).getD i 0) + (k ++ x).getD (16 + i) 0 = _
    rw [hg i (by omega), hg (16 + i) (by omega)]
  · funext b
    show Toy.D (k ++ x) b = Toy.D k b
    unfold Toy.D
    refine List.map_congr_left fun i hi => ?_
    have := List.mem_range.mp hi
    show Toy.rotr3 (_ - (k ++ x).getD (16 + (i + 15) % 16) 0) ^^^ (k ++ x).getD ((i + 15) % 16) 0 = _
    rw [hg _ (by omega), hg ((i + 15) % 16) (by omega)]

end Pna
