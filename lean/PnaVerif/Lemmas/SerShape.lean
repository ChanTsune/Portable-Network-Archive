import PnaVerif.Model.Entry
/-!
  The chunk sequence of a serialised entry, seen by type: header first, end marker last, and in between the
  entry's own `extra` chunks and chunks of a fixed list of types (`serN_eq_mid`, `mem_serNMid`; `serS` likewise).
  Every "no chunk of type … inside an entry" fact (item boundaries, the first FEND inside a solid block, FDAT/SDAT
  separation, the layout clauses of C14) is an instance of `ser?Mid_forall_ty` (between header and end marker),
  `ser?Body_forall_ty` (header included) or `ser?_forall_ty` (the whole entry), its side condition on the fixed
  types closed by `decide`.
-/
namespace Pna
open ChunkType

theorem mem_optChunk {t : ChunkType} {o : Option Bytes} {c : Chunk} (h : c ∈ optChunk t o) : c.ty = t := by
  cases o with
  | none => cases h
  | some d => rw [List.mem_singleton.mp h]

theorem forall_mem_optChunk {p : Chunk → Prop} {t : ChunkType} {o : Option Bytes} :
    (∀ c ∈ optChunk t o, p c) ↔ ∀ d, o = some d → p ⟨t, d⟩ := by
  cases o <;> simp [optChunk]

def serNMid (e : NormalEntry) : List Chunk :=
  e.extra
  ++ optChunk fSIZ (e.md.rawSize.map encFSIZ)
  ++ optChunk PHSF e.phsf
  ++ (e.data.flatMap fun d => (rustChunks maxChunkData d).map fun u => ⟨FDAT, u⟩)
  ++ optChunk cTIM (e.md.created.map encTime)
  ++ optChunk mTIM (e.md.modified.map encTime)
  ++ optChunk aTIM (e.md.accessed.map encTime)
  ++ optChunk fPRM (e.md.permission.map encFPRM)
  ++ e.xattrs.map (fun x => ⟨xATR, encXATR x⟩)

theorem serN_eq_mid (e : NormalEntry) : serN e = ⟨FHED, encFHED e.header⟩ :: serNMid e ++ [⟨FEND, []⟩] := by
  simp only [serN, serNMid, List.cons_append, List.nil_append, List.append_assoc]

theorem serN_head (e : NormalEntry) : (serN e).head? = some ⟨FHED, encFHED e.header⟩ :=
  congrArg List.head? (serN_eq_mid e)

/-- the types `serN` writes itself between header and end marker -/
def serNMidTypes : List ChunkType := [fSIZ, PHSF, FDAT, cTIM, mTIM, aTIM, fPRM, xATR]

theorem mem_serNMid {e : NormalEntry} {c : Chunk} (hc : c ∈ serNMid e) : c ∈ e.extra ∨ c.ty ∈ serNMidTypes := by
  simp only [serNMid, List.mem_append, List.mem_flatMap, List.mem_map] at hc
  rcases hc with (((((((hc | hc) | hc) | hc) | hc) | hc) | hc) | hc) | hc
  · exact Or.inl hc
  · exact Or.inr (mem_optChunk hc ▸ by decide)
  · exact Or.inr (mem_optChunk hc ▸ by decide)
  · obtain ⟨d, _, u, _, rfl⟩ := hc; exact Or.inr (show FDAT ∈ _ by decide)
  · exact Or.inr (mem_optChunk hc ▸ by decide)
  · exact Or.inr (mem_optChunk hc ▸ by decide)
  · exact Or.inr (mem_optChunk hc ▸ by decide)
  · exact Or.inr (mem_optChunk hc ▸ by decide)
  · obtain ⟨x, _, rfl⟩ := hc; exact Or.inr (show xATR ∈ _ by decide)

theorem serNMid_forall_ty (p : ChunkType → Prop) (e : NormalEntry) (hx : ∀ c ∈ e.extra, p c.ty)
    (hp : ∀ t ∈ serNMidTypes, p t) : ∀ c ∈ serNMid e, p c.ty := by
  intro c hc
  rcases mem_serNMid hc with h | h
  · exact hx c h
  · exact hp _ h

theorem serNBody_forall_ty (p : ChunkType → Prop) (e : NormalEntry) (hx : ∀ c ∈ e.extra, p c.ty)
    (hp : ∀ t ∈ FHED :: serNMidTypes, p t) : ∀ c ∈ (⟨FHED, encFHED e.header⟩ :: serNMid e : List Chunk), p c.ty := by
  intro c hc
  rcases List.mem_cons.mp hc with rfl | hc
  · exact hp FHED List.mem_cons_self
  · exact serNMid_forall_ty p e hx (fun t ht => hp t (List.mem_cons_of_mem _ ht)) c hc

theorem serN_forall_ty (p : ChunkType → Prop) (e : NormalEntry) (hx : ∀ c ∈ e.extra, p c.ty)
    (hp : ∀ t ∈ FEND :: FHED :: serNMidTypes, p t) : ∀ c ∈ serN e, p c.ty := by
  intro c hc
  rw [serN_eq_mid, List.mem_append, List.mem_singleton] at hc
  rcases hc with hc | rfl
  · exact serNBody_forall_ty p e hx (fun t ht => hp t (List.mem_cons_of_mem _ ht)) c hc
  · exact hp FEND List.mem_cons_self

def serSMid (s : SolidEntry) : List Chunk :=
  s.extra ++ optChunk PHSF s.phsf ++ s.data.map (fun d => ⟨SDAT, d⟩)

theorem serS_eq_mid (s : SolidEntry) : serS s = ⟨SHED, encSHED s.header⟩ :: serSMid s ++ [⟨SEND, []⟩] := by
  simp only [serS, serSMid, List.cons_append, List.nil_append, List.append_assoc]

theorem serS_head (s : SolidEntry) : (serS s).head? = some ⟨SHED, encSHED s.header⟩ :=
  congrArg List.head? (serS_eq_mid s)

theorem mem_serSMid {s : SolidEntry} {c : Chunk} (hc : c ∈ serSMid s) :
    c ∈ s.extra ∨ c.ty = PHSF ∨ c.ty = SDAT := by
  simp only [serSMid, List.mem_append, List.mem_map] at hc
  rcases hc with (hc | hc) | hc
  · exact Or.inl hc
  · exact Or.inr (Or.inl (mem_optChunk hc))
  · obtain ⟨d, _, rfl⟩ := hc; exact Or.inr (Or.inr rfl)

theorem serSMid_forall_ty (p : ChunkType → Prop) (s : SolidEntry) (hx : ∀ c ∈ s.extra, p c.ty)
    (hp : p PHSF ∧ p SDAT) : ∀ c ∈ serSMid s, p c.ty := by
  intro c hc
  rcases mem_serSMid hc with h | h | h
  · exact hx c h
  · exact h ▸ hp.1
  · exact h ▸ hp.2

theorem serSBody_forall_ty (p : ChunkType → Prop) (s : SolidEntry) (hx : ∀ c ∈ s.extra, p c.ty)
    (hp : p SHED ∧ p PHSF ∧ p SDAT) : ∀ c ∈ (⟨SHED, encSHED s.header⟩ :: serSMid s : List Chunk), p c.ty := by
  intro c hc
  rcases List.mem_cons.mp hc with rfl | hc
  · exact hp.1
  · exact serSMid_forall_ty p s hx hp.2 c hc

theorem serS_forall_ty (p : ChunkType → Prop) (s : SolidEntry) (hx : ∀ c ∈ s.extra, p c.ty)
    (hp : p SEND ∧ p SHED ∧ p PHSF ∧ p SDAT) : ∀ c ∈ serS s, p c.ty := by
  intro c hc
  rw [serS_eq_mid, List.mem_append, List.mem_singleton] at hc
  rcases hc with hc | rfl
  · exact serSBody_forall_ty p s hx hp.2 c hc
  · exact hp.1

end Pna
