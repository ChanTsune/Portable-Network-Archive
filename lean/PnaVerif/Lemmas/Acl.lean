import PnaVerif.Lemmas.CliText
/-!
Reading back what `migrate` and `acl set` write (C10).  `aclOf` over `aclChunks m ++ rest`, from any state, pushes the
groups of `m` one by one (`aclMerge`, `aclOf_aclChunks_gen`); when the platforms are fresh and distinct that appends
`m` without its empty groups (`dropEmpty`, `aclMerge_nodup`).  `AclMapOk` — distinct platforms, no empty group,
well-formed entries — is kept by every insertion (`aclInsert_ok`).  The conclusions are drawn in Props/C10AclIdem: by
induction along `aclOf` every map it collects is `AclMapOk` (`C10AI.aclOf_mapOk_acc`, `C10AI.aclOf_mapOk`), and on such
a map the read-back is the identity (`C10AI.aclOf_aclChunks`).
-/
namespace Pna.Cli
open Text

theorem aclOf_nil (cur : Str) (m : AclMap) : aclOf cur m [] = some m := by
  unfold aclOf; rfl

theorem aclOf_faCl (cur p : Str) (m : AclMap) (rest : List (Bytes × Bytes)) :
    aclOf cur m ((faCl, utf8 p) :: rest) = aclOf p m rest := by
  rw [aclOf, if_pos rfl, decodeUtf8_utf8]

theorem faCe_ne_faCl : faCe ≠ faCl := by decide

theorem aclOf_faCe (cur : Str) (a : Ace) (h : a.WF) (m : AclMap) (rest : List (Bytes × Bytes)) :
    aclOf cur m ((faCe, utf8 (showAce a)) :: rest) = aclOf cur (aclInsert m cur a) rest := by
  rw [aclOf, if_neg faCe_ne_faCl, if_pos rfl, decodeUtf8_utf8]
  simp only [parseAceP_showAce_noprefix a h, Option.getD_none]

theorem aclOf_other (cur : Str) (m : AclMap) (x : Bytes × Bytes) (rest : List (Bytes × Bytes))
    (hx : isAclChunk x = false) : aclOf cur m (x :: rest) = aclOf cur m rest := by
  obtain ⟨t, d⟩ := x
  simp only [isAclChunk, Bool.or_eq_false_iff, beq_eq_false_iff_ne] at hx
  rw [aclOf, if_neg hx.1, if_neg hx.2]

theorem aclOf_skip (cur : Str) (m : AclMap) (rest : List (Bytes × Bytes))
    (h : ∀ x ∈ rest, isAclChunk x = false) : aclOf cur m rest = some m := by
  induction rest with
  | nil => exact aclOf_nil cur m
  | cons x rest ih =>
    rw [aclOf_other cur m x rest (h x (by simp))]
    exact ih (fun y hy => h y (by simp [hy]))

def aclInsertAll (m : AclMap) (k : Str) (as : List Ace) : AclMap := as.foldl (fun m a => aclInsert m k a) m

def aclMerge (acc m : AclMap) : AclMap := m.foldl (fun acc p => aclInsertAll acc p.1 p.2) acc

/-- the current platform of `aclOf` after the chunks of `m`, having started with `cur` -/
def lastKey (cur : Str) (m : AclMap) : Str := m.foldl (fun _ p => p.1) cur

theorem aclOf_aces (cur : Str) (as : List Ace) (h : ∀ a ∈ as, a.WF) (acc : AclMap) (rest : List (Bytes × Bytes)) :
    aclOf cur acc (as.map (fun a => (faCe, utf8 (showAce a))) ++ rest) = aclOf cur (aclInsertAll acc cur as) rest := by
  induction as generalizing acc with
  | nil => rfl
  | cons a as ih =>
    rw [List.map_cons, List.cons_append, aclOf_faCe cur a (h a (by simp)), ih (fun b hb => h b (by simp [hb]))]
    rfl

theorem aclChunks_cons (p : Str × List Ace) (m : AclMap) :
    aclChunks (p :: m) = ((faCl, utf8 p.1) :: p.2.map fun a => (faCe, utf8 (showAce a))) ++ aclChunks m := by
  simp only [aclChunks, List.flatMap_cons]

theorem aclOf_aclChunks_gen (m : AclMap) (h : ∀ p ∈ m, ∀ a ∈ p.2, a.WF) (cur : Str) (acc : AclMap)
    (rest : List (Bytes × Bytes)) :
    aclOf cur acc (aclChunks m ++ rest) = aclOf (lastKey cur m) (aclMerge acc m) rest := by
  induction m generalizing cur acc with
  | nil => rfl
  | cons p m ih =>
    rw [aclChunks_cons, List.append_assoc, List.cons_append, aclOf_faCl,
      aclOf_aces p.1 p.2 (h p (by simp)), ih (fun q hq => h q (by simp [hq]))]
    rfl

theorem aclInsert_keys (m : AclMap) (k : Text.Str) (a : Text.Ace) :
    (aclInsert m k a).map (·.1) = if m.any (·.1 == k) then m.map (·.1) else m.map (·.1) ++ [k] := by
  unfold aclInsert
  split
  · rw [List.map_map]
    congr 1
    funext p
    simp only [Function.comp]
    split <;> rfl
  · simp

theorem aclInsert_new (acc : AclMap) (k : Str) (a : Ace) (hk : k ∉ acc.map (·.1)) :
    aclInsert acc k a = acc ++ [(k, [a])] := by
  unfold aclInsert
  rw [if_neg]
  simp only [List.any_eq_true, beq_iff_eq, not_exists, not_and]
  intro p hp he
  exact hk (List.mem_map.mpr ⟨p, hp, he⟩)

theorem aclInsert_last (acc : AclMap) (k : Str) (l : List Ace) (a : Ace) (hk : k ∉ acc.map (·.1)) :
    aclInsert (acc ++ [(k, l)]) k a = acc ++ [(k, l ++ [a])] := by
  unfold aclInsert
  rw [if_pos (by simp)]
  rw [List.map_append]
  congr 1
  · conv => rhs; rw [← List.map_id acc]
    apply List.map_congr_left
    intro p hp
    have : p.1 ≠ k := fun he => hk (List.mem_map.mpr ⟨p, hp, he⟩)
    simp [this]
  · simp

theorem aclInsertAll_last (acc : AclMap) (k : Str) (l as : List Ace) (hk : k ∉ acc.map (·.1)) :
    aclInsertAll (acc ++ [(k, l)]) k as = acc ++ [(k, l ++ as)] := by
  induction as generalizing l with
  | nil => simp [aclInsertAll]
  | cons a as ih =>
    have := ih (l ++ [a])
    simp only [aclInsertAll, List.foldl_cons] at this ⊢
    rw [aclInsert_last acc k l a hk, this, List.append_assoc]
    rfl

theorem aclInsertAll_new (acc : AclMap) (k : Str) (as : List Ace) (hk : k ∉ acc.map (·.1)) (hne : as ≠ []) :
    aclInsertAll acc k as = acc ++ [(k, as)] := by
  cases as with
  | nil => exact absurd rfl hne
  | cons a as =>
    have := aclInsertAll_last acc k [a] as hk
    simp only [aclInsertAll, List.foldl_cons] at this ⊢
    rw [aclInsert_new acc k a hk, this]
    rfl

/-- the groups that survive a write/read cycle: those with at least one entry -/
def dropEmpty (m : AclMap) : AclMap := m.filter (fun p => !p.2.isEmpty)

theorem dropEmpty_of_ok (m : AclMap) (h : ∀ p ∈ m, p.2 ≠ []) : dropEmpty m = m := by
  unfold dropEmpty
  apply List.filter_eq_self.mpr
  intro p hp
  simpa using h p hp

/-- The EMPTY groups vanish: `aclChunks` writes a lone `faCl` chunk for them, and `acl()` creates a list only when it
    meets an entry. -/
theorem aclMerge_nodup (acc m : AclMap) (hk : ((acc ++ m).map (·.1)).Nodup) :
    aclMerge acc m = acc ++ dropEmpty m := by
  induction m generalizing acc with
  | nil => simp [aclMerge, dropEmpty]
  | cons p m ih =>
    have h2 : aclMerge acc (p :: m) = aclMerge (aclInsertAll acc p.1 p.2) m := rfl
    rw [h2]
    by_cases hp2 : p.2 = []
    · have h3 : aclInsertAll acc p.1 p.2 = acc := by rw [hp2]; rfl
      have hsub : ((acc ++ m).map (·.1)).Sublist ((acc ++ p :: m).map (·.1)) := by
        apply List.Sublist.map
        exact List.Sublist.append (List.Sublist.refl acc) (List.sublist_cons_self p m)
      rw [h3, ih acc (hsub.nodup hk)]
      simp [dropEmpty, hp2]
    · have hp : p.1 ∉ acc.map (·.1) := by
        intro hmem
        rw [List.map_append, List.map_cons] at hk
        exact (List.nodup_append.mp hk).2.2 _ hmem p.1 (by simp) rfl
      rw [aclInsertAll_new acc p.1 p.2 hp hp2, ih (acc ++ [p]) (by simpa using hk)]
      have : (p.2.isEmpty) = false := by simpa using hp2
      simp [dropEmpty, this]

theorem aclOf_aclChunks_dropEmpty (m : AclMap) (hk : (m.map (·.1)).Nodup) (hwf : ∀ p ∈ m, ∀ a ∈ p.2, a.WF)
    (rest : List (Bytes × Bytes)) (hrest : ∀ x ∈ rest, isAclChunk x = false) :
    aclOf [] [] (aclChunks m ++ rest) = some (dropEmpty m) := by
  rw [aclOf_aclChunks_gen m hwf, aclMerge_nodup [] m (by simpa using hk), aclOf_skip _ _ _ hrest]
  rfl

/-- what every map collected by `aclOf` satisfies (`C10AI.aclOf_mapOk`) -/
def AclMapOk (m : AclMap) : Prop :=
  (m.map (·.1)).Nodup ∧ ∀ p ∈ m, p.2 ≠ [] ∧ ∀ a ∈ p.2, a.WF

instance (m : AclMap) : Decidable (AclMapOk m) := by unfold AclMapOk; infer_instance

theorem aclMapOk_nil : AclMapOk [] := ⟨List.nodup_nil, nofun⟩

theorem mem_aces_aclInsert (m : AclMap) (k : Str) (b a : Ace) :
    (∃ p ∈ aclInsert m k b, a ∈ p.2) ↔ (∃ p ∈ m, a ∈ p.2) ∨ a = b := by
  unfold aclInsert
  split
  · -- platform `k` is there: `b` goes to the end of every group named `k`, of which `q0` is one
    rename_i hany
    obtain ⟨q0, hq0, hk0⟩ := List.any_eq_true.mp hany
    constructor
    · rintro ⟨p, hp, ha⟩
      obtain ⟨q, hq, he⟩ := List.mem_map.mp hp
      split at he
      · subst he
        rcases List.mem_append.mp ha with ha | ha
        · exact .inl ⟨q, hq, ha⟩
        · exact .inr (List.mem_singleton.mp ha)
      · exact .inl ⟨q, hq, he ▸ ha⟩
    · rintro (⟨p, hp, ha⟩ | rfl)
      · by_cases hk : (p.1 == k) = true
        · exact ⟨(p.1, p.2 ++ [b]), List.mem_map.mpr ⟨p, hp, by rw [if_pos hk]⟩, by simp [ha]⟩
        · exact ⟨p, List.mem_map.mpr ⟨p, hp, by rw [if_neg hk]⟩, ha⟩
      · exact ⟨(q0.1, q0.2 ++ [a]), List.mem_map.mpr ⟨q0, hq0, by rw [if_pos hk0]⟩, by simp⟩
  · -- platform `k` is new: the groups of `m`, then the group `(k, [b])`
    constructor
    · rintro ⟨p, hp, ha⟩
      rcases List.mem_append.mp hp with hp | hp
      · exact .inl ⟨p, hp, ha⟩
      · rw [List.mem_singleton] at hp
        subst hp
        exact .inr (List.mem_singleton.mp ha)
    · rintro (⟨p, hp, ha⟩ | rfl)
      · exact ⟨p, List.mem_append.mpr (.inl hp), ha⟩
      · exact ⟨(k, [a]), by simp, by simp⟩

theorem aclInsert_ok (m : AclMap) (k : Str) (a : Ace) (hm : AclMapOk m) (ha : a.WF) : AclMapOk (aclInsert m k a) := by
  obtain ⟨hk, hv⟩ := hm
  refine ⟨?_, fun p hp => ⟨?_, fun b hb => ?_⟩⟩
  · rw [aclInsert_keys]
    split
    · exact hk
    · rename_i hany
      refine List.nodup_append.mpr ⟨hk, (by simp), ?_⟩
      intro x hx y hy he
      obtain ⟨p, hp, rfl⟩ := List.mem_map.mp hx
      exact hany (List.any_eq_true.mpr ⟨p, hp, by simp [he, List.mem_singleton.mp hy]⟩)
  · unfold aclInsert at hp
    split at hp
    · obtain ⟨q, hq, he⟩ := List.mem_map.mp hp
      split at he
      · subst he
        simp
      · exact he ▸ (hv q hq).1
    · rcases List.mem_append.mp hp with hp | hp
      · exact (hv p hp).1
      · rw [List.mem_singleton.mp hp]
        simp
  · rcases (mem_aces_aclInsert m k a b).mp ⟨p, hp, hb⟩ with ⟨q, hq, hb⟩ | rfl
    · exact (hv q hq).2 b hb
    · exact ha

theorem aclOf_aces_acc (cur : Str) (acc : AclMap) (cs : List (Bytes × Bytes)) (m : AclMap)
    (h : aclOf cur acc cs = some m) (a : Ace) :
    (∃ p ∈ m, a ∈ p.2) ↔
      (∃ p ∈ acc, a ∈ p.2) ∨ ∃ d s pl, (faCe, d) ∈ cs ∧ decodeUtf8 d = some s ∧ parseAceP s = .ok (pl, a) := by
  -- the seven branches of `aclOf`: 1 no chunk left; 2 `faCl` with a UTF-8 name: go on under that platform;
  -- 3 `faCl`, not UTF-8: `none`; 4 `faCe`, not UTF-8: `none`; 5 `faCe` that parses: insert, go on;
  -- 6 `faCe` that does not parse: `none`; 7 any other chunk: skip
  fun_induction aclOf cur acc cs with
  | case1 =>
    cases h
    simp
  | case2 _ _ _ _ _ _ ih => simp only [ih h, List.mem_cons, Prod.mk.injEq, faCe_ne_faCl, false_and, false_or]
  | case5 _ acc d _ s hd pl b hp _ ih =>
    -- the head chunk is a `faCe` chunk that parses to `b`
    rw [ih h, mem_aces_aclInsert, or_assoc]
    simp only [Prod.exists, eq_comm (a := a), exists_and_left, List.mem_cons, Prod.mk.injEq, true_and,
      or_and_right, exists_or, exists_eq_left, hd, Option.some.injEq, exists_eq_left', hp, Except.ok.injEq]
  | case7 _ _ t _ _ _ ht ih => simp only [ih h, List.mem_cons, Prod.mk.injEq, Ne.symm ht, false_and, false_or]
  | _ => cases h

theorem aclChunks_all_acl (m : AclMap) : ∀ x ∈ aclChunks m, isAclChunk x = true := by
  intro x hx
  simp only [aclChunks, List.mem_flatMap] at hx
  obtain ⟨⟨p, aces⟩, _, hx⟩ := hx
  simp only [List.mem_cons, List.mem_map] at hx
  rcases hx with rfl | ⟨a, _, rfl⟩
  · simp [isAclChunk]
  · simp [isAclChunk]

theorem filter_aclChunks (m : AclMap) : (aclChunks m).filter (fun x => !isAclChunk x) = [] := by
  apply List.filter_eq_nil_iff.mpr
  intro x hx
  simp [aclChunks_all_acl m x hx]

theorem filter_not_acl (cs : List (Bytes × Bytes)) : ∀ x ∈ cs.filter (fun x => !isAclChunk x), isAclChunk x = false := by
  intro x hx
  have := (List.mem_filter.mp hx).2
  simpa using this

theorem filter_aclChunks_append (m : AclMap) (rest : List (Bytes × Bytes)) (hrest : ∀ x ∈ rest, isAclChunk x = false) :
    (aclChunks m ++ rest).filter (fun x => !isAclChunk x) = rest := by
  rw [List.filter_append, filter_aclChunks, List.nil_append]
  apply List.filter_eq_self.mpr
  intro x hx
  simp [hrest x hx]

end Pna.Cli
