import PnaVerif.Model.Cli.Extract
import PnaVerif.Lemmas.Name
/-!
# Confinement (strings): `comps`, `joinP`, `parentP` on byte strings, in terms of component lists
-/
namespace Pna.Confined
open Pna Pna.Fs Pna.Cli

/-- the non-empty components (`.` kept) -/
def ncomps (s : Bytes) : List Bytes := (splitSlash s).filter (· ≠ [])

theorem comps_eq (s : Bytes) : comps s = (ncomps s).filter (fun c => decide (c ≠ [dot])) := by
  unfold comps ncomps
  rw [List.filter_filter]
  apply List.filter_congr
  intro x _
  exact Bool.and_comm _ _

/-- the hypothesis in the form `sanitize_components` gives it -/
theorem comps_of_normal {p : Bytes}
    (h : ∀ c ∈ splitSlash p, c ≠ [] ∧ c ≠ [dot] ∧ c ≠ [dot, dot] ∧ slash ∉ c) : comps p = splitSlash p := by
  unfold comps
  apply List.filter_eq_self.2
  intro c hc
  have := h c hc
  simp [this.1, this.2.1]

theorem ncomps_append (a b : Bytes) : ncomps (a ++ slash :: b) = ncomps a ++ ncomps b := by
  unfold ncomps; rw [splitSlash_append, List.filter_append]

theorem ncomps_nil : ncomps [] = [] := by decide

/-- what holds of every member of `ncomps s` -/
def GoodN (c : Bytes) : Prop := c ≠ [] ∧ slash ∉ c

theorem ncomps_good (s : Bytes) : ∀ c ∈ ncomps s, GoodN c := by
  intro c hc
  have := List.mem_filter.1 hc
  exact ⟨by simpa using this.2, splitSlash_no_slash s c this.1⟩

theorem ncomps_joinSlash (cs : List Bytes) (h : ∀ c ∈ cs, GoodN c) : ncomps (joinSlash cs) = cs := by
  by_cases hn : cs = []
  · subst hn; exact ncomps_nil
  · unfold ncomps
    rw [splitSlash_joinSlash cs hn (fun c hc => (h c hc).2)]
    apply List.filter_eq_self.2
    intro c hc
    simpa using (h c hc).1

theorem isAbs_append (a b : Bytes) (ha : a ≠ []) : isAbs (a ++ b) = isAbs a := by
  cases a with
  | nil => exact absurd rfl ha
  | cons x xs => simp [isAbs]

theorem isAbs_joinSlash (cs : List Bytes) (h : ∀ c ∈ cs, GoodN c) : isAbs (joinSlash cs) = false := by
  cases cs with
  | nil => simp [joinSlash, isAbs]
  | cons c cs =>
    have hc := h c (by simp)
    cases hcc : c with
    | nil => exact absurd hcc hc.1
    | cons b rest =>
      unfold isAbs
      rw [joinSlash_head b rest cs]
      have hb : b ≠ slash := by
        intro e; apply hc.2; rw [hcc, e]; simp
      simpa using hb

theorem ncomps_joinP (a b : Bytes) (hb : isAbs b = false) : ncomps (joinP a b) = ncomps a ++ ncomps b := by
  unfold joinP
  simp only [hb, Bool.false_eq_true, if_false]
  split
  · rename_i e; subst e; simp [ncomps_nil]
  · split
    · rename_i e; subst e; simp [ncomps_nil]
    · rw [List.append_assoc]; exact ncomps_append a b

theorem isAbs_joinP (a b : Bytes) (ha : isAbs a = false) (hb : isAbs b = false) : isAbs (joinP a b) = false := by
  unfold joinP
  simp only [hb, Bool.false_eq_true, if_false]
  split
  · exact ha
  · split
    · exact hb
    · rename_i _ hne
      rw [List.append_assoc, isAbs_append a _ hne]; exact ha

theorem joinP_abs (a b : Bytes) (hb : isAbs b = true) : joinP a b = b := by
  unfold joinP; simp [hb]

theorem comps_joinP (a b : Bytes) (hb : isAbs b = false) : comps (joinP a b) = comps a ++ comps b := by
  rw [comps_eq, comps_eq, comps_eq, ncomps_joinP a b hb, List.filter_append]

theorem parentP_eq (s : Bytes) : parentP s =
    (match ncomps s with
      | [] => none
      | cs => some ((if isAbs s then [slash] else []) ++ joinSlash cs.dropLast)) := rfl

theorem parentP_rel (s : Bytes) (hs : isAbs s = false) :
    isAbs ((parentP s).getD []) = false ∧ ncomps ((parentP s).getD []) = (ncomps s).dropLast := by
  have hgood := ncomps_good s
  rw [parentP_eq]
  generalize ncomps s = N at hgood
  cases N with
  | nil => simp [isAbs, ncomps_nil]
  | cons c cs =>
    have hg : ∀ x ∈ (c :: cs).dropLast, GoodN x := fun x hx => hgood x ((List.dropLast_subset _) hx)
    simp only [hs, Bool.false_eq_true, if_false, List.nil_append, Option.getD_some]
    exact ⟨isAbs_joinSlash _ hg, ncomps_joinSlash _ hg⟩

theorem parentP_some (s : Bytes) (hn : ncomps s ≠ []) :
    parentP s = some ((if isAbs s then [slash] else []) ++ joinSlash (ncomps s).dropLast) := by
  rw [parentP_eq]
  split
  · rename_i e; exact absurd e hn
  · rfl

/-- the parent of an absolute path is absolute -/
theorem isAbs_of_parent {x : Bytes} (hn : ncomps x ≠ []) (h : isAbs ((parentP x).getD []) = false) :
    isAbs x = false := by
  cases ha : isAbs x with
  | false => rfl
  | true =>
    rw [parentP_some x hn, if_pos ha] at h
    simp [isAbs] at h

/-- `tl = []` when `ncomps x` is empty or ends in `.`, which `comps` drops -/
theorem comps_parent_tail (x : Bytes) (hx : isAbs x = false) :
    ∃ tl : List Bytes, (tl = [] ∨ ∃ l, tl = [l]) ∧ comps x = comps ((parentP x).getD []) ++ tl := by
  have h := (parentP_rel x hx).2
  rw [comps_eq, comps_eq, h]
  generalize ncomps x = N
  by_cases hN : N = []
  · subst hN; exact ⟨[], Or.inl rfl, by simp⟩
  · refine ⟨[N.getLast hN].filter (fun c => decide (c ≠ [dot])), ?_, ?_⟩
    · by_cases e : N.getLast hN = [dot]
      · left; simp [e]
      · right; exact ⟨N.getLast hN, by simp [e]⟩
    · rw [← List.filter_append, List.dropLast_concat_getLast]

/-- what holds of every member of `comps s` -/
def GoodC (c : Bytes) : Prop := c ≠ [] ∧ c ≠ [dot] ∧ slash ∉ c

theorem comps_good (s : Bytes) : ∀ c ∈ comps s, GoodC c := by
  intro c hc
  rw [comps_eq] at hc
  have h := List.mem_filter.1 hc
  have g := ncomps_good s c h.1
  exact ⟨g.1, by simpa using h.2, g.2⟩

theorem comps_joinSlash (w : List Bytes) (h : ∀ c ∈ w, GoodC c) : comps (joinSlash w) = w := by
  rw [comps_eq, ncomps_joinSlash w (fun c hc => ⟨(h c hc).1, (h c hc).2.2⟩)]
  apply List.filter_eq_self.2
  intro c hc
  simpa using (h c hc).2.1

/-- the output directory is a plain relative name: one component `d`, not `..` -/
structure OutDir (outDir : Bytes) (d : Bytes) : Prop where
  comps : comps outDir = [d]
  nodd : d ≠ [dot, dot]
  rel : isAbs outDir = false

/-- the string `s` spells the output directory `d` followed by the components `cs` -/
structure Spells (d s : Bytes) (cs : List Bytes) : Prop where
  nodd : d ≠ [dot, dot]
  rel : isAbs s = false
  comps : comps s = d :: cs

theorem OutDir.comps_join {outDir d : Bytes} (ho : OutDir outDir d) (x : Bytes) (hx : isAbs x = false) :
    Spells d (joinP outDir x) (Pna.Fs.comps x) := by
  refine ⟨ho.nodd, isAbs_joinP _ _ ho.rel hx, ?_⟩
  rw [comps_joinP _ _ hx, ho.comps]; rfl

/-- `parentP (outDir/x)` is `outDir/(parentP x)` on components -/
theorem OutDir.parent_join {outDir d : Bytes} (ho : OutDir outDir d) (x : Bytes) (hx : isAbs x = false)
    (hn : ncomps x ≠ []) :
    ∃ q, parentP (joinP outDir x) = some q ∧ Spells d q (Pna.Fs.comps ((parentP x).getD [])) := by
  have hj := ncomps_joinP outDir x hx
  have hne : ncomps (joinP outDir x) ≠ [] := by rw [hj]; simp [hn]
  obtain ⟨q, hq⟩ : ∃ q, parentP (joinP outDir x) = some q := ⟨_, parentP_some _ hne⟩
  have ⟨hqa, hqn⟩ := parentP_rel _ (isAbs_joinP _ _ ho.rel hx)
  simp only [hq, Option.getD_some] at hqa hqn
  refine ⟨q, hq, ho.nodd, hqa, ?_⟩
  rw [comps_eq q, hqn, hj, List.dropLast_append_of_ne_nil hn, List.filter_append, ← comps_eq, ho.comps,
    comps_eq ((parentP x).getD []), (parentP_rel x hx).2]
  rfl

theorem ncomps_ne_nil_of_comps {x : Bytes} (h : Pna.Fs.comps x ≠ []) : ncomps x ≠ [] := by
  intro e; rw [comps_eq, e] at h; exact h rfl

end Pna.Confined
