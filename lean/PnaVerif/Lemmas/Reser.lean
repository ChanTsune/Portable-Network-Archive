import PnaVerif.Model.Entry
import PnaVerif.Lemmas.EntryLoop
import PnaVerif.Lemmas.Codec
import PnaVerif.Lemmas.Name
import PnaVerif.Lemmas.Flatten
import PnaVerif.Lemmas.SerShape
/-!
  Re-serialisation of entries (lib/src/entry.rs): `NormalEntry::try_from(RawEntry)` against
  `into_chunks`/`write_in`, and the same for `SolidEntry`.

  `NormalEntry.WF` is at once the domain on which `parseN ∘ serN` is the identity up to `recut` (`parseN_serN`; the
  serialiser cuts data at u32::MAX and drops empty slices, which is invisible on the wire and in meaning:
  `serN_recut`, `recut_meaning`) and what the parser establishes of whatever it accepts (`parseN_WF`, from the loop
  invariant `NAcc.WF` through `loopOf_inv`).  `parseN_serN` runs the loop over the serialisation segment by segment:
  one `NRun_*` lemma per segment of `serN`, glued by `nLoop_append`.  Solid entries likewise, and exactly: one SDAT
  per stored slice, no re-cut.
-/
namespace Pna
open ChunkType

def NormalEntry.WF (e : NormalEntry) : Prop :=
  e.header.major = 0 ∧ e.header.minor = 0 ∧ validKind e.header.kind = true ∧
  validCompression e.header.compression = true ∧ validEncryption e.header.encryption = true ∧
  validCipherMode e.header.cipherMode = true ∧ validUtf8 e.header.name = true ∧
  sanitize e.header.name = e.header.name ∧
  (∀ c ∈ e.extra, interpretedN c.ty = false) ∧
  (∀ p, e.phsf = some p → validUtf8 p = true) ∧
  (∀ n, e.md.rawSize = some n → n < 2 ^ 128) ∧
  (∀ n, e.md.created = some n → n < 2 ^ 64) ∧ (∀ n, e.md.modified = some n → n < 2 ^ 64) ∧
  (∀ n, e.md.accessed = some n → n < 2 ^ 64) ∧
  (∀ p, e.md.permission = some p → p.WF) ∧ (∀ x ∈ e.xattrs, x.WF)

/-- data slices re-cut the way the serialiser does (`chunks(u32::MAX)`; empty slices vanish) -/
def NormalEntry.recut (e : NormalEntry) : NormalEntry :=
  { e with data := e.data.flatMap (rustChunks maxChunkData) }

theorem nType_cases (t : ChunkType) :
    t = FEND ∨ t = FHED ∨ t = PHSF ∨ t = FDAT ∨ t = fSIZ ∨ t = cTIM ∨ t = mTIM ∨ t = aTIM ∨ t = fPRM ∨
      t = xATR ∨ interpretedN t = false := by
  cases h : interpretedN t
  · simp
  · simpa [interpretedN, or_assoc] using h

theorem interpretedN_of_eq {t : ChunkType}
    (h : t = FHED ∨ t = PHSF ∨ t = FDAT ∨ t = fSIZ ∨ t = cTIM ∨ t = mTIM ∨ t = aTIM ∨ t = fPRM ∨ t = xATR) :
    interpretedN t = true := by
  rcases h with h | h | h | h | h | h | h | h | h <;> subst h <;> decide

theorem NormalEntry.WF.extra_ne {e : NormalEntry} (h : e.WF) {t : ChunkType} (ht : interpretedN t = true) :
    ∀ c ∈ e.extra, c.ty ≠ t := by
  intro c hc hty
  have := h.2.2.2.2.2.2.2.2.1 c hc
  rw [hty, ht] at this
  cases this

-- `nStep`, one equation per chunk type: the chain of `if`s evaluates on a literal type

theorem nStep_FEND (a : NAcc) (d : Bytes) : nStep a ⟨FEND, d⟩ = .ok none := rfl

theorem nStep_FHED (a : NAcc) (d : Bytes) :
    nStep a ⟨FHED, d⟩ = (do let v ← decFHED d; .ok (some { a with info := some v })) := rfl

theorem nStep_PHSF (a : NAcc) (d : Bytes) :
    nStep a ⟨PHSF, d⟩ = if validUtf8 d then .ok (some { a with phsf := some d }) else .error .invalidData := rfl

theorem nStep_FDAT (a : NAcc) (d : Bytes) :
    nStep a ⟨FDAT, d⟩ = .ok (some { a with data := d :: a.data }) := rfl

theorem nStep_fSIZ (a : NAcc) (d : Bytes) :
    nStep a ⟨fSIZ, d⟩ = .ok (some { a with size := some (decFSIZ d) }) := rfl

theorem nStep_cTIM (a : NAcc) (d : Bytes) :
    nStep a ⟨cTIM, d⟩ = (do let v ← decTime d; .ok (some { a with ctime := some v })) := rfl

theorem nStep_mTIM (a : NAcc) (d : Bytes) :
    nStep a ⟨mTIM, d⟩ = (do let v ← decTime d; .ok (some { a with mtime := some v })) := rfl

theorem nStep_aTIM (a : NAcc) (d : Bytes) :
    nStep a ⟨aTIM, d⟩ = (do let v ← decTime d; .ok (some { a with atime := some v })) := rfl

theorem nStep_fPRM (a : NAcc) (d : Bytes) :
    nStep a ⟨fPRM, d⟩ = (do let v ← decFPRM d; .ok (some { a with perm := some v })) := rfl

theorem nStep_xATR (a : NAcc) (d : Bytes) :
    nStep a ⟨xATR, d⟩ = (do let v ← decXATR d; .ok (some { a with xattrs := v :: a.xattrs })) := rfl

theorem nStep_unknown (a : NAcc) (c : Chunk) (h : interpretedN c.ty = false) :
    nStep a c = .ok (some { a with extra := c :: a.extra }) := by
  simp only [interpretedN, Bool.or_eq_false_iff, decide_eq_false_iff_not] at h
  simp only [nStep, h, if_false]

theorem nStep_some {a a' : NAcc} {c : Chunk} (h : nStep a c = .ok (some a')) :
    c.ty ≠ FEND ∧
    ((c.ty = FHED ∧ ∃ hd, decFHED c.data = .ok hd ∧ a' = { a with info := some hd }) ∨
     (c.ty = PHSF ∧ validUtf8 c.data = true ∧ a' = { a with phsf := some c.data }) ∨
     (c.ty = FDAT ∧ a' = { a with data := c.data :: a.data }) ∨
     (c.ty = fSIZ ∧ a' = { a with size := some (decFSIZ c.data) }) ∨
     (c.ty = cTIM ∧ ∃ t, decTime c.data = .ok t ∧ a' = { a with ctime := some t }) ∨
     (c.ty = mTIM ∧ ∃ t, decTime c.data = .ok t ∧ a' = { a with mtime := some t }) ∨
     (c.ty = aTIM ∧ ∃ t, decTime c.data = .ok t ∧ a' = { a with atime := some t }) ∨
     (c.ty = fPRM ∧ ∃ p, decFPRM c.data = .ok p ∧ a' = { a with perm := some p }) ∨
     (c.ty = xATR ∧ ∃ x, decXATR c.data = .ok x ∧ a' = { a with xattrs := x :: a.xattrs }) ∨
     (interpretedN c.ty = false ∧ a' = { a with extra := c :: a.extra })) := by
  obtain ⟨ty, d⟩ := c
  refine ⟨fun (e : ty = FEND) => ?_, ?_⟩
  · subst e
    cases h
  rcases nType_cases ty with rfl | rfl | rfl | rfl | rfl | rfl | rfl | rfl | rfl | rfl | t
  · cases h
  · exact .inl ⟨rfl, bind_some_eq h⟩
  · rw [nStep_PHSF] at h
    split at h
    · cases h
      exact .inr (.inl ⟨rfl, ‹_›, rfl⟩)
    · cases h
  · cases h
    exact .inr (.inr (.inl ⟨rfl, rfl⟩))
  · cases h
    exact .inr (.inr (.inr (.inl ⟨rfl, rfl⟩)))
  · exact .inr (.inr (.inr (.inr (.inl ⟨rfl, bind_some_eq h⟩))))
  · exact .inr (.inr (.inr (.inr (.inr (.inl ⟨rfl, bind_some_eq h⟩)))))
  · exact .inr (.inr (.inr (.inr (.inr (.inr (.inl ⟨rfl, bind_some_eq h⟩))))))
  · exact .inr (.inr (.inr (.inr (.inr (.inr (.inr (.inl ⟨rfl, bind_some_eq h⟩)))))))
  · exact .inr (.inr (.inr (.inr (.inr (.inr (.inr (.inr (.inl ⟨rfl, bind_some_eq h⟩))))))))
  · rw [nStep_unknown a ⟨ty, d⟩ t] at h
    cases h
    exact .inr (.inr (.inr (.inr (.inr (.inr (.inr (.inr (.inr ⟨t, rfl⟩))))))))

theorem nStep_none {a : NAcc} {c : Chunk} (h : nStep a c = .ok none) : c.ty = FEND := by
  obtain ⟨ty, d⟩ := c
  rcases nType_cases ty with rfl | rfl | rfl | rfl | rfl | rfl | rfl | rfl | rfl | rfl | t
  · rfl
  · obtain ⟨_, _, e⟩ := Outcome.bind_eq_ok h
    cases e
  · rw [nStep_PHSF] at h
    split at h <;> cases h
  · cases h
  · cases h
  · obtain ⟨_, _, e⟩ := Outcome.bind_eq_ok h
    cases e
  · obtain ⟨_, _, e⟩ := Outcome.bind_eq_ok h
    cases e
  · obtain ⟨_, _, e⟩ := Outcome.bind_eq_ok h
    cases e
  · obtain ⟨_, _, e⟩ := Outcome.bind_eq_ok h
    cases e
  · obtain ⟨_, _, e⟩ := Outcome.bind_eq_ok h
    cases e
  · rw [nStep_unknown a ⟨ty, d⟩ t] at h
    cases h

/-- Invariant of the parser loop. -/
structure NAcc.WF (a : NAcc) : Prop where
  info : ∀ h, a.info = some h → validKind h.kind = true ∧ validCompression h.compression = true ∧
    validEncryption h.encryption = true ∧ validCipherMode h.cipherMode = true ∧
    validUtf8 h.name = true ∧ sanitize h.name = h.name
  phsf : ∀ p, a.phsf = some p → validUtf8 p = true
  extra : ∀ c ∈ a.extra, interpretedN c.ty = false
  size : ∀ n, a.size = some n → n < 2 ^ 128
  ctime : ∀ n, a.ctime = some n → n < 2 ^ 64
  mtime : ∀ n, a.mtime = some n → n < 2 ^ 64
  atime : ∀ n, a.atime = some n → n < 2 ^ 64
  perm : ∀ p, a.perm = some p → p.WF
  xattrs : ∀ x ∈ a.xattrs, x.WF

theorem NAcc.WF_init : NAcc.WF {} := by
  constructor <;> simp

theorem nStep_WF {a a' : NAcc} {c : Chunk} (h : nStep a c = .ok (some a')) (hw : a.WF) : a'.WF := by
  rcases (nStep_some h).2 with ⟨_, hd, hdec, rfl⟩ | ⟨_, hv, rfl⟩ | ⟨_, rfl⟩ | ⟨_, rfl⟩ | ⟨_, t, hdec, rfl⟩ |
    ⟨_, t, hdec, rfl⟩ | ⟨_, t, hdec, rfl⟩ | ⟨_, p, hdec, rfl⟩ | ⟨_, x, hdec, rfl⟩ | ⟨hi, rfl⟩
  · obtain ⟨_, _, _, _, _, _, name, -, g1, g2, g3, g4, hu, rfl⟩ := decFHED_ok hdec
    refine { hw with info := fun _ e => ?_ }
    cases e
    exact ⟨g1, g2, g3, g4, validUtf8_sanitize _ hu, sanitize_idem _⟩
  · exact { hw with phsf := fun _ e => by cases e; exact hv }
  · exact { hw with }
  · exact { hw with size := fun _ e => by cases e; exact decFSIZ_lt _ }
  · exact { hw with ctime := fun _ e => by cases e; exact decTime_lt hdec }
  · exact { hw with mtime := fun _ e => by cases e; exact decTime_lt hdec }
  · exact { hw with atime := fun _ e => by cases e; exact decTime_lt hdec }
  · exact { hw with perm := fun _ e => by cases e; exact decFPRM_WF hdec }
  · exact { hw with xattrs := List.forall_mem_cons.mpr ⟨decXATR_WF hdec, hw.xattrs⟩ }
  · exact { hw with extra := List.forall_mem_cons.mpr ⟨hi, hw.extra⟩ }

theorem nStep_extra {a a' : NAcc} {c : Chunk} (h : nStep a c = .ok (some a')) :
    a'.extra = if interpretedN c.ty = false then c :: a.extra else a.extra := by
  rcases (nStep_some h).2 with ⟨ht, hd, hdec, rfl⟩ | ⟨ht, hv, rfl⟩ | ⟨ht, rfl⟩ | ⟨ht, rfl⟩ | ⟨ht, t, hdec, rfl⟩ |
    ⟨ht, t, hdec, rfl⟩ | ⟨ht, t, hdec, rfl⟩ | ⟨ht, p, hdec, rfl⟩ | ⟨ht, x, hdec, rfl⟩ | ⟨hi, rfl⟩
  all_goals first
    | (rw [if_pos hi]; done)
    | (have hi : interpretedN c.ty = true := interpretedN_of_eq (by simp [ht])
       rw [hi]; rfl)

theorem nStep_data {a a' : NAcc} {c : Chunk} (h : nStep a c = .ok (some a')) :
    a'.data = if c.ty = FDAT then c.data :: a.data else a.data := by
  rcases (nStep_some h).2 with ⟨ht, hd, hdec, rfl⟩ | ⟨ht, hv, rfl⟩ | ⟨ht, rfl⟩ | ⟨ht, rfl⟩ | ⟨ht, t, hdec, rfl⟩ |
    ⟨ht, t, hdec, rfl⟩ | ⟨ht, t, hdec, rfl⟩ | ⟨ht, p, hdec, rfl⟩ | ⟨ht, x, hdec, rfl⟩ | ⟨hi, rfl⟩
  · rw [if_neg (by rw [ht]; decide)]
  · rw [if_neg (by rw [ht]; decide)]
  · rw [if_pos ht]
  · rw [if_neg (by rw [ht]; decide)]
  · rw [if_neg (by rw [ht]; decide)]
  · rw [if_neg (by rw [ht]; decide)]
  · rw [if_neg (by rw [ht]; decide)]
  · rw [if_neg (by rw [ht]; decide)]
  · rw [if_neg (by rw [ht]; decide)]
  · rw [if_neg fun hc => by rw [hc] at hi; cases hi]

theorem nLoop_cons_ok {a b : NAcc} {c : Chunk} {cs : List Chunk} (h : nLoop a (c :: cs) = .ok b) :
    (nStep a c = .ok none ∧ b = a) ∨ ∃ a', nStep a c = .ok (some a') ∧ nLoop a' cs = .ok b := by
  cases hs : nStep a c with
  | error e => simp [nLoop, hs] at h
  | panic s => simp [nLoop, hs] at h
  | ok o =>
    cases o with
    | none => rw [nLoop_eq, loopOf_cons_none cs hs] at h; left; exact ⟨rfl, by cases h; rfl⟩
    | some a' => rw [nLoop_eq, loopOf_cons_some cs hs, ← nLoop_eq] at h; right; exact ⟨a', rfl, h⟩

theorem nLoop_extra {cs : List Chunk} {a b : NAcc} (h : nLoop a cs = .ok b) :
    b.extra.reverse = a.extra.reverse ++
      (cs.takeWhile (fun c => c.ty ≠ ChunkType.FEND)).filter (fun c => interpretedN c.ty = false) := by
  induction cs generalizing a with
  | nil => simp only [nLoop, Outcome.ok.injEq] at h; subst h; simp
  | cons c cs ih =>
    rcases nLoop_cons_ok h with ⟨hs, rfl⟩ | ⟨a', hs, hl⟩
    · have := nStep_none hs
      simp [this]
    · have hne := (nStep_some hs).1
      rw [ih hl, nStep_extra hs, List.takeWhile_cons]
      simp only [hne, ne_eq, not_false_eq_true, decide_true, ite_true, List.filter_cons]
      by_cases hi : interpretedN c.ty = false
      · simp [hi]
      · simp [hi]

theorem parseN_ok {raw : List Chunk} {e : NormalEntry} (h : parseN raw = .ok e) :
    ∃ a hd, nLoop {} raw = .ok a ∧ a.info = some hd ∧ hd.major = 0 ∧ hd.minor = 0 ∧
      e = { header := hd, phsf := a.phsf, extra := a.extra.reverse, data := a.data.reverse,
            md := { rawSize := a.size, created := a.ctime, modified := a.mtime,
                    accessed := a.atime, permission := a.perm },
            xattrs := a.xattrs.reverse } := by
  have hgo : parseN.go raw = .ok e := by
    unfold parseN at h
    split at h
    · exact (guard_eq_ok.mp h).2
    · exact h
  unfold parseN.go at hgo
  split at hgo <;> try cases hgo
  split at hgo <;> try cases hgo
  obtain ⟨hv, hgo⟩ := guard_eq_ok.mp hgo
  cases hgo
  exact ⟨_, _, ‹_›, ‹_›, by omega, by omega, rfl⟩

/-- `raw` is any chunk list the parser accepts, foreign layouts included: chunks in any order, repeated
    singletons, unknown ancillary/private chunks, several data chunks. -/
theorem parseN_WF (raw : List Chunk) (e : NormalEntry) (h : parseN raw = .ok e) : e.WF := by
  obtain ⟨a, hd, hl, hi, hmaj, hmin, rfl⟩ := parseN_ok h
  obtain ⟨w1, w2, w3, w4, w5, w6, w7, w8, w9⟩ :=
    loopOf_inv NAcc.WF (fun _ _ _ => nStep_WF) (nLoop_eq _ _ ▸ hl) NAcc.WF_init
  obtain ⟨g1, g2, g3, g4, g5, g6⟩ := w1 hd hi
  refine ⟨hmaj, hmin, g1, g2, g3, g4, g5, g6, ?_, w2, w4, w5, w6, w7, w8, ?_⟩
  · intro c hc; exact w3 c (List.mem_reverse.mp hc)
  · intro x hx; exact w9 x (List.mem_reverse.mp hx)

/-- A run of loop iterations none of which fails or breaks. -/
inductive NRun : NAcc → List Chunk → NAcc → Prop
  | nil (a : NAcc) : NRun a [] a
  | cons {a a' a'' : NAcc} {c : Chunk} {cs : List Chunk} :
      nStep a c = .ok (some a') → NRun a' cs a'' → NRun a (c :: cs) a''

theorem NRun.single {a a' : NAcc} {c : Chunk} (h : nStep a c = .ok (some a')) : NRun a [c] a' :=
  .cons h (.nil a')

theorem NRun.append {a a' a'' : NAcc} {xs ys : List Chunk} (r1 : NRun a xs a') (r2 : NRun a' ys a'') :
    NRun a (xs ++ ys) a'' := by
  induction r1 with
  | nil a => exact r2
  | cons h _ ih => exact .cons h (ih r2)

theorem nLoop_append {a a' : NAcc} {xs : List Chunk} (r : NRun a xs a') (ys : List Chunk) :
    nLoop a (xs ++ ys) = nLoop a' ys := by
  induction r with
  | nil a => rfl
  | cons h _ ih => rw [List.cons_append, nLoop_eq, loopOf_cons_some _ h, ← nLoop_eq, ih]

/-- one iteration on a chunk whose payload the decoder `x` accepts -/
theorem NRun.dec {β} {a a' : NAcc} {c : Chunk} {x : Outcome β} {v : β} {f : β → Outcome (Option NAcc)}
    (e : nStep a c = x >>= f) (hx : x = .ok v) (hf : f v = .ok (some a') := by rfl) : NRun a [c] a' :=
  .single (by rw [e, hx]; exact hf)

theorem NRun_extras (a : NAcc) (xs : List Chunk) (h : ∀ c ∈ xs, interpretedN c.ty = false) :
    NRun a xs { a with extra := xs.reverse ++ a.extra } := by
  induction xs generalizing a with
  | nil => exact .nil a
  | cons c cs ih =>
    refine .cons (nStep_unknown a c (h c (by simp))) ?_
    simpa using ih { a with extra := c :: a.extra } (fun x hx => h x (by simp [hx]))

theorem NRun_fdat (a : NAcc) (ds : List Bytes) :
    NRun a (ds.map fun u => ⟨FDAT, u⟩) { a with data := ds.reverse ++ a.data } := by
  induction ds generalizing a with
  | nil => exact .nil a
  | cons d ds ih =>
    refine .cons (nStep_FDAT a d) ?_
    simpa using ih { a with data := d :: a.data }

theorem NRun_xattrs (a : NAcc) (xs : List XAttr) (h : ∀ x ∈ xs, x.WF) :
    NRun a (xs.map fun x => ⟨xATR, encXATR x⟩) { a with xattrs := xs.reverse ++ a.xattrs } := by
  induction xs generalizing a with
  | nil => exact .nil a
  | cons x xs ih =>
    obtain ⟨h1, h2, h3⟩ := h x (by simp)
    refine .cons ((nStep_xATR a _).trans (by rw [decXATR_encXATR x h1 h2 h3]; rfl)) ?_
    simpa using ih { a with xattrs := x :: a.xattrs } (fun y hy => h y (by simp [hy]))

theorem NRun_fSIZ (a : NAcc) (o : Option Nat) (h : ∀ n, o = some n → n < 2 ^ 128) :
    NRun a (optChunk fSIZ (o.map encFSIZ)) { a with size := o.or a.size } := by
  cases o with
  | none => exact .nil a
  | some n => exact .single ((nStep_fSIZ a _).trans (by rw [decFSIZ_encFSIZ n (h n rfl)]; rfl))

theorem NRun_PHSF (a : NAcc) (o : Option Bytes) (h : ∀ p, o = some p → validUtf8 p = true) :
    NRun a (optChunk PHSF o) { a with phsf := o.or a.phsf } := by
  cases o with
  | none => exact .nil a
  | some p => exact .single ((nStep_PHSF a p).trans (if_pos (h p rfl)))

theorem NRun_cTIM (a : NAcc) (o : Option Nat) (h : ∀ n, o = some n → n < 2 ^ 64) :
    NRun a (optChunk cTIM (o.map encTime)) { a with ctime := o.or a.ctime } := by
  cases o with
  | none => exact .nil a
  | some n => exact .dec (nStep_cTIM a _) (decTime_encTime n (h n rfl))

theorem NRun_mTIM (a : NAcc) (o : Option Nat) (h : ∀ n, o = some n → n < 2 ^ 64) :
    NRun a (optChunk mTIM (o.map encTime)) { a with mtime := o.or a.mtime } := by
  cases o with
  | none => exact .nil a
  | some n => exact .dec (nStep_mTIM a _) (decTime_encTime n (h n rfl))

theorem NRun_aTIM (a : NAcc) (o : Option Nat) (h : ∀ n, o = some n → n < 2 ^ 64) :
    NRun a (optChunk aTIM (o.map encTime)) { a with atime := o.or a.atime } := by
  cases o with
  | none => exact .nil a
  | some n => exact .dec (nStep_aTIM a _) (decTime_encTime n (h n rfl))

theorem NRun_fPRM (a : NAcc) (o : Option Permission) (h : ∀ p, o = some p → p.WF) :
    NRun a (optChunk fPRM (o.map encFPRM)) { a with perm := o.or a.perm } := by
  cases o with
  | none => exact .nil a
  | some p =>
    obtain ⟨h1, h2, h3, h4, h5, h6, h7⟩ := h p rfl
    exact .dec (nStep_fPRM a _) (decFPRM_encFPRM p h4 h5 h1 h2 h3 h6 h7)

/-- `recut` is the identity unless a data slice is empty or longer than u32::MAX (`flatMap_rustChunks_pieces`). -/
theorem parseN_serN (e : NormalEntry) (h : e.WF) : parseN (serN e) = .ok e.recut := by
  obtain ⟨hmaj, hmin, hk, hc, he, hm, hu, hs, hex, hph, hsz, hct, hmt, hat, hpm, hxa⟩ := h
  have hdec : decFHED (encFHED e.header) = .ok e.header :=
    decFHED_encFHED e.header (by rw [hmaj]; decide) (by rw [hmin]; decide) hk hc he hm hu hs
  unfold parseN
  rw [serN_head]
  simp only [ne_eq, not_true_eq_false, ite_false]
  unfold parseN.go
  -- the loop over the serialisation, segment by segment from the empty accumulator
  simp only [serN, List.append_assoc, ← List.map_flatMap]
  rw [nLoop_append (NRun.dec (nStep_FHED {} _) hdec), nLoop_append (NRun_extras _ _ hex),
    nLoop_append (NRun_fSIZ _ _ hsz), nLoop_append (NRun_PHSF _ _ hph), nLoop_append (NRun_fdat _ _),
    nLoop_append (NRun_cTIM _ _ hct), nLoop_append (NRun_mTIM _ _ hmt), nLoop_append (NRun_aTIM _ _ hat),
    nLoop_append (NRun_fPRM _ _ hpm), nLoop_append (NRun_xattrs _ _ hxa), nLoop_eq, loopOf_cons_none _ (nStep_FEND _ _)]
  simp only [hmaj, hmin, ne_eq, not_true_eq_false, or_self, ite_false, Option.or_none,
    List.append_nil, List.reverse_reverse, NormalEntry.recut]

theorem flatMap_rustChunks_pieces (ps : List Bytes) (h : ∀ p ∈ ps, p ≠ [] ∧ p.length ≤ maxChunkData) :
    ps.flatMap (rustChunks maxChunkData) = ps := by
  induction ps with
  | nil => rfl
  | cons p ps ih =>
    obtain ⟨hne, hle⟩ := h p (by simp)
    rw [List.flatMap_cons, rustChunks_small _ p hle hne, ih (fun q hq => h q (by simp [hq]))]
    rfl

/-- the pieces of a cut are non-empty and short enough, so cutting them again changes nothing -/
theorem serN_recut (e : NormalEntry) : serN e.recut = serN e := by
  unfold serN NormalEntry.recut
  dsimp only
  rw [← List.map_flatMap, ← List.map_flatMap, flatMap_rustChunks_pieces]
  intro p hp
  obtain ⟨d, _, hd⟩ := List.mem_flatMap.mp hp
  exact rustChunks_pieces _ maxChunkData_pos d p hd

theorem recut_meaning (e : NormalEntry) :
    e.recut.header = e.header ∧ e.recut.phsf = e.phsf ∧ e.recut.extra = e.extra ∧ e.recut.md = e.md ∧
    e.recut.xattrs = e.xattrs ∧ e.recut.data.flatten = e.data.flatten :=
  ⟨rfl, rfl, rfl, rfl, rfl, rustChunks_flatMap_flatten _ maxChunkData_pos e.data⟩

/-- C13: read-modify-write is stable from the second pass on — for any accepted chunk list,
    decode → write → decode → write produces the same chunks as decode → write. -/
theorem normal_reser_stable (raw : List Chunk) (e : NormalEntry) (h : parseN raw = .ok e) :
    ∃ e', parseN (serN e) = .ok e' ∧ serN e' = serN e :=
  ⟨e.recut, parseN_serN e (parseN_WF raw e h), serN_recut e⟩

def SolidEntry.WF (s : SolidEntry) : Prop :=
  s.header.major < 256 ∧ s.header.minor < 256 ∧ validCompression s.header.compression = true ∧
  validEncryption s.header.encryption = true ∧ validCipherMode s.header.cipherMode = true ∧
  (∀ c ∈ s.extra, c.ty ≠ ChunkType.SEND ∧ c.ty ≠ ChunkType.SHED ∧ c.ty ≠ ChunkType.SDAT ∧ c.ty ≠ ChunkType.PHSF) ∧
  (∀ p, s.phsf = some p → validUtf8 p = true)

theorem sStep_SEND (a : SAcc) (d : Bytes) : sStep a ⟨SEND, d⟩ = .ok none := rfl

theorem sStep_SHED (a : SAcc) (d : Bytes) :
    sStep a ⟨SHED, d⟩ = (do let v ← decSHED d; .ok (some { a with info := some v })) := rfl

theorem sStep_SDAT (a : SAcc) (d : Bytes) :
    sStep a ⟨SDAT, d⟩ = .ok (some { a with data := d :: a.data }) := rfl

theorem sStep_PHSF (a : SAcc) (d : Bytes) :
    sStep a ⟨PHSF, d⟩ = if validUtf8 d then .ok (some { a with phsf := some d }) else .error .invalidData := rfl

theorem sStep_unknown (a : SAcc) (c : Chunk)
    (h : c.ty ≠ SEND ∧ c.ty ≠ SHED ∧ c.ty ≠ SDAT ∧ c.ty ≠ PHSF) :
    sStep a c = .ok (some { a with extra := c :: a.extra }) := by
  unfold sStep
  rw [if_neg h.1, if_neg h.2.1, if_neg h.2.2.1, if_neg h.2.2.2]

theorem sStep_some {a a' : SAcc} {c : Chunk} (h : sStep a c = .ok (some a')) :
    (c.ty = SHED ∧ ∃ hd, decSHED c.data = .ok hd ∧ a' = { a with info := some hd }) ∨
    (c.ty = SDAT ∧ a' = { a with data := c.data :: a.data }) ∨
    (c.ty = PHSF ∧ validUtf8 c.data = true ∧ a' = { a with phsf := some c.data }) ∨
    ((c.ty ≠ SEND ∧ c.ty ≠ SHED ∧ c.ty ≠ SDAT ∧ c.ty ≠ PHSF) ∧ a' = { a with extra := c :: a.extra }) := by
  obtain ⟨ty, d⟩ := c
  by_cases t0 : ty = SEND
  · subst t0
    cases h
  by_cases t1 : ty = SHED
  · subst t1
    exact .inl ⟨rfl, bind_some_eq h⟩
  by_cases t2 : ty = SDAT
  · subst t2
    cases h
    exact .inr (.inl ⟨rfl, rfl⟩)
  by_cases t3 : ty = PHSF
  · subst t3
    rw [sStep_PHSF] at h
    split at h
    · cases h
      exact .inr (.inr (.inl ⟨rfl, ‹_›, rfl⟩))
    · cases h
  · rw [sStep_unknown a ⟨ty, d⟩ ⟨t0, t1, t2, t3⟩] at h
    cases h
    exact .inr (.inr (.inr ⟨⟨t0, t1, t2, t3⟩, rfl⟩))

/-- Invariant of the solid parser loop. -/
structure SAcc.WF (a : SAcc) : Prop where
  info : ∀ h, a.info = some h → h.major < 256 ∧ h.minor < 256 ∧ validCompression h.compression = true ∧
    validEncryption h.encryption = true ∧ validCipherMode h.cipherMode = true
  phsf : ∀ p, a.phsf = some p → validUtf8 p = true
  extra : ∀ c ∈ a.extra, c.ty ≠ SEND ∧ c.ty ≠ SHED ∧ c.ty ≠ SDAT ∧ c.ty ≠ PHSF

theorem SAcc.WF_init : SAcc.WF {} := by
  constructor <;> simp

theorem sStep_WF {a a' : SAcc} {c : Chunk} (h : sStep a c = .ok (some a')) (hw : a.WF) : a'.WF := by
  rcases sStep_some h with ⟨_, hd, hdec, rfl⟩ | ⟨_, rfl⟩ | ⟨_, hv, rfl⟩ | ⟨hi, rfl⟩
  · obtain ⟨a, b, _, _, _, -, g1, g2, g3, rfl⟩ := decSHED_ok hdec
    exact { hw with info := fun _ e => by cases e; exact ⟨a.toNat_lt, b.toNat_lt, g1, g2, g3⟩ }
  · exact { hw with }
  · exact { hw with phsf := fun _ e => by cases e; exact hv }
  · exact { hw with extra := List.forall_mem_cons.mpr ⟨hi, hw.extra⟩ }

theorem parseS_ok {raw : List Chunk} {s : SolidEntry} (h : parseS raw = .ok s) :
    ∃ a hd, sLoop {} raw = .ok a ∧ a.info = some hd ∧
      s = { header := hd, phsf := a.phsf, data := a.data.reverse, extra := a.extra.reverse } := by
  have hgo : parseS.go raw = .ok s := by
    unfold parseS at h
    split at h
    · exact (guard_eq_ok.mp h).2
    · exact h
  unfold parseS.go at hgo
  split at hgo <;> try cases hgo
  split at hgo <;> cases hgo
  exact ⟨_, _, ‹_›, ‹_›, rfl⟩

theorem parseS_WF (raw : List Chunk) (s : SolidEntry) (h : parseS raw = .ok s) : s.WF := by
  obtain ⟨a, hd, hl, hi, rfl⟩ := parseS_ok h
  obtain ⟨w1, w2, w3⟩ := loopOf_inv SAcc.WF (fun _ _ _ => sStep_WF) (sLoop_eq _ _ ▸ hl) SAcc.WF_init
  obtain ⟨g1, g2, g3, g4, g5⟩ := w1 hd hi
  exact ⟨g1, g2, g3, g4, g5, fun c hc => w3 c (List.mem_reverse.mp hc), w2⟩

/-- A run of solid-loop iterations none of which fails or breaks. -/
inductive SRun : SAcc → List Chunk → SAcc → Prop
  | nil (a : SAcc) : SRun a [] a
  | cons {a a' a'' : SAcc} {c : Chunk} {cs : List Chunk} :
      sStep a c = .ok (some a') → SRun a' cs a'' → SRun a (c :: cs) a''

theorem SRun.single {a a' : SAcc} {c : Chunk} (h : sStep a c = .ok (some a')) : SRun a [c] a' :=
  .cons h (.nil a')

theorem SRun.append {a a' a'' : SAcc} {xs ys : List Chunk} (r1 : SRun a xs a') (r2 : SRun a' ys a'') :
    SRun a (xs ++ ys) a'' := by
  induction r1 with
  | nil a => exact r2
  | cons h _ ih => exact .cons h (ih r2)

theorem sLoop_append {a a' : SAcc} {xs : List Chunk} (r : SRun a xs a') (ys : List Chunk) :
    sLoop a (xs ++ ys) = sLoop a' ys := by
  induction r with
  | nil a => rfl
  | cons h _ ih => rw [List.cons_append, sLoop_eq, loopOf_cons_some _ h, ← sLoop_eq, ih]

theorem SRun_extras (a : SAcc) (xs : List Chunk)
    (h : ∀ c ∈ xs, c.ty ≠ SEND ∧ c.ty ≠ SHED ∧ c.ty ≠ SDAT ∧ c.ty ≠ PHSF) :
    SRun a xs { a with extra := xs.reverse ++ a.extra } := by
  induction xs generalizing a with
  | nil => exact .nil a
  | cons c cs ih =>
    refine .cons (sStep_unknown a c (h c (by simp))) ?_
    simpa using ih { a with extra := c :: a.extra } (fun x hx => h x (by simp [hx]))

theorem SRun_sdat (a : SAcc) (ds : List Bytes) :
    SRun a (ds.map fun d => ⟨SDAT, d⟩) { a with data := ds.reverse ++ a.data } := by
  induction ds generalizing a with
  | nil => exact .nil a
  | cons d ds ih =>
    refine .cons (sStep_SDAT a d) ?_
    simpa using ih { a with data := d :: a.data }

theorem SRun_PHSF (a : SAcc) (o : Option Bytes) (h : ∀ p, o = some p → validUtf8 p = true) :
    SRun a (optChunk PHSF o) { a with phsf := o.or a.phsf } := by
  cases o with
  | none => exact .nil a
  | some p => exact .single ((sStep_PHSF a p).trans (if_pos (h p rfl)))

theorem parseS_serS (s : SolidEntry) (h : s.WF) : parseS (serS s) = .ok s := by
  obtain ⟨h1, h2, hc, he, hm, hex, hph⟩ := h
  unfold parseS
  rw [serS_head]
  simp only [ne_eq, not_true_eq_false, ite_false]
  unfold parseS.go
  simp only [serS, List.append_assoc]
  rw [sLoop_append (.single ((sStep_SHED {} _).trans (by rw [decSHED_encSHED s.header h1 h2 hc he hm]; rfl))),
    sLoop_append (SRun_extras _ _ hex), sLoop_append (SRun_PHSF _ _ hph), sLoop_append (SRun_sdat _ _),
    sLoop_eq, loopOf_cons_none _ (sStep_SEND _ _)]
  simp only [Option.or_none, List.append_nil, List.reverse_reverse]

end Pna
