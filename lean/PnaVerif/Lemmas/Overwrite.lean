import PnaVerif.Model.Cli.Overwrite
import PnaVerif.Lemmas.Fs
/-!
# Output-path guards without `--overwrite` (`Model/Cli/Overwrite.lean`)

Each effect of a plan, run behind its guard, is `Preserved` (`Lemmas/Fs.lean`): a passed guard means that the
file made is new, and `InoOk` is carried along so that its inode is new as well.  `Props/C20.lean` composes these.

The unconditional preservation statement for `planExtractFile` is **false** of the model (and of
`extract_entry`: `path.exists()` is tested *before* `create_dir_all(parent)`): witness `planExtractFile_window`
(`dest = x/../f` with `x` missing and `f` an existing file).
-/
namespace Pna.Cli
open Pna.Fs

/-- `File::create` behind a passed `guard`: the path did not exist (following links), so the file made is new —
    possibly at the target of a dangling link -/
theorem create_guarded_preserved (fs fs' : Fs) (cwd : Path) (s c : Bytes) (hok : fs.InoOk)
    (hg : fs.existsP cwd s = false) (h : fs.createFile cwd s c = .ok fs') : Preserved fs fs' ∧ fs'.InoOk := by
  obtain ⟨p, hr, ⟨ino, hf, _⟩ | ⟨hl, _, rfl⟩⟩ := createFile_ok_iff.1 h
  · simp [Fs.existsP, hr, hf] at hg
  · exact ⟨newFile_preserved fs p c hok.lookup hl, newFile_inoOk fs p c hok⟩

theorem createNew_preserved (fs fs' : Fs) (cwd : Path) (s c : Bytes) (hok : fs.InoOk)
    (h : fs.createNewFile cwd s c = .ok fs') : Preserved fs fs' ∧ fs'.InoOk := by
  unfold Fs.createNewFile at h
  split at h
  · cases h
  · rename_i p _
    split at h
    · cases h
    · rename_i hl _
      cases h; exact ⟨newFile_preserved fs p c hok.lookup hl, newFile_inoOk fs p c hok⟩
    · cases h

theorem createNews_preserved (cwd : Path) (parts : List (Bytes × Bytes)) (fs : Fs) (hok : fs.InoOk) :
    Preserved fs (runPlan cwd fs (parts.map (fun (p, c) => Eff.createNew p c))).1 ∧
    (runPlan cwd fs (parts.map (fun (p, c) => Eff.createNew p c))).1.InoOk := by
  induction parts generalizing fs with
  | nil => simp [runPlan]; exact ⟨Preserved.refl _, hok⟩
  | cons pc rest ih =>
    obtain ⟨p, c⟩ := pc
    cases hc : fs.createNewFile cwd p c with
    | error e => simp [runPlan, runEff, hc]; exact ⟨Preserved.refl _, hok⟩
    | ok fs' =>
      simp only [List.map_cons, runPlan, runEff, hc]
      have ⟨h1, h2⟩ := createNew_preserved fs fs' cwd p c hok hc
      have ⟨h3, h4⟩ := ih fs' h2
      exact ⟨h1.trans h3, h4⟩

/-! ### why `C20.extract_file_safe` has its proviso: the guard is evaluated *before* `create_dir_all`

`/s/f` is an existing file, `/s/x` does not exist.  `dest = x/../f`, `parent = x/..`: the guard `dest.exists()` is
false (ENOENT on `x`), `create_dir_all` makes `x`, and `File::create("x/../f")` then truncates `/s/f`. -/

def windowFs : Fs := ⟨[([[115]], .dir), ([[115], [102]], .file 1)], [(1, [1, 2, 3])], 2⟩
def windowDest : Bytes := [120, 47, 46, 46, 47, 102]      -- x/../f
def windowParent : Bytes := [120, 47, 46, 46]             -- x/..

theorem planExtractFile_window :
    let r := runPlan [[115]] windowFs (planExtractFile windowDest windowParent [9])
    windowFs.existsP [[115]] windowDest = false ∧ windowFs.lookup [[115], [102]] = some (.file 1) ∧
    windowFs.content 1 = [1, 2, 3] ∧ r.2 = none ∧ r.1.lookup [[115], [102]] = some (.file 1) ∧ r.1.content 1 = [9] := by
  decide +kernel

theorem windowFs_inoOk : windowFs.InoOk := by
  refine ⟨fun p n ino hm hn => ?_, fun i c hm => ?_⟩
  · simp [windowFs] at hm
    rcases hm with hm | hm
    · rw [hm.2] at hn; cases hn
    · rw [hm.2] at hn; cases hn; decide
  · simp [windowFs] at hm
    rw [hm.1]; decide

/-- `rename` behind a passed `lguard`: the destination name was free, so the only directory entry that goes away is
    the source; file contents are never touched. -/
theorem rename_lguarded_preserved (fs fs' : Fs) (cwd : Path) (src dst : Bytes)
    (hg : fs.lexists cwd dst = false) (h : fs.renameP cwd src dst = .ok fs') :
    (∀ q n, q ≠ [] → entryPath fs cwd src ≠ some q → fs.lookup q = some n → fs'.lookup q = some n) ∧
    (∀ ino, fs'.content ino = fs.content ino) := by
  unfold Fs.renameP at h
  split at h
  · rename_i sp dp hs hd
    split at h
    · cases h
    · rename_i m hm
      cases h
      refine ⟨fun q n hq hne hl => ?_, fun ino => rfl⟩
      have hqs : q ≠ sp := by intro e; subst e; exact hne hs
      have hdn : fs.lookup dp = none := by
        unfold Fs.lexists at hg
        rw [hd] at hg
        cases hl' : fs.lookup dp with
        | none => rfl
        | some _ => simp [hl'] at hg
      have hqd : q ≠ dp := by intro e; subst e; rw [hdn] at hl; cases hl
      have := lookup_setNode_ne fs dp q m hqd
      rw [hl] at this
      unfold Fs.lookup at this ⊢
      simp only [hq, if_false] at this ⊢
      rw [find?_filter_ne _ _ _ hqs]; exact this
  · cases h

end Pna.Cli
