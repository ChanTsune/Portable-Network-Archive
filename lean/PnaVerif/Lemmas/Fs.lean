import PnaVerif.Model.Fs
import PnaVerif.Lemmas.ListFacts
/-!
# The abstract file system (`Model/Fs.lean`): what `lookup` and `content` see after an update, and the
orderings between states that the operations respect

* `Preserved a b` — every object of `a` is in `b` at the same path, file contents unchanged (C20, C02).
* `Grows a b` — the counters only grow, and a regular file of `b` that `a` did not have carries a new inode
  (the permission step of Props/C09Perm, C02).
* `MkDirs a b` — all that `create_dir_all` does, whatever it meets: directories made at free paths, one after
  the other.
-/
namespace Pna.Cli
open Pna.Fs

theorem lookup_mem {fs : Fs} {p : Path} {n : Node} (hp : p ≠ []) (h : fs.lookup p = some n) : (p, n) ∈ fs.nodes := by
  unfold Fs.lookup at h
  simp only [hp, if_false] at h
  cases hf : fs.nodes.find? (·.1 == p) with
  | none => simp [hf] at h
  | some x =>
    simp [hf] at h
    have h1 := List.mem_of_find?_eq_some hf
    have h2 := List.find?_some hf
    simp at h2
    rw [← h2, ← h]; exact h1

theorem lookup_file_ne_nil {fs : Fs} {p : Path} {ino : Nat} (h : fs.lookup p = some (.file ino)) : p ≠ [] := by
  intro hp; subst hp; simp [Fs.lookup] at h

theorem lookup_none_ne_nil {fs : Fs} {p : Path} (h : fs.lookup p = none) : p ≠ [] := by
  intro hp; subst hp; simp [Fs.lookup] at h

theorem lookup_setNode_ne (fs : Fs) (p q : Path) (n : Node) (h : q ≠ p) : (fs.setNode p n).lookup q = fs.lookup q := by
  unfold Fs.lookup Fs.setNode
  by_cases hq : q = []
  · simp [hq]
  · simp only [hq, if_false]
    rw [find?_filter_append_ne _ _ _ _ h]

theorem content_setContent_ne (fs : Fs) (i j : Nat) (c : Bytes) (h : i ≠ j) : (fs.setContent j c).content i = fs.content i := by
  unfold Fs.content Fs.setContent
  simp only
  rw [find?_filter_append_ne _ _ _ _ h]

theorem lookup_setNode_eq (fs : Fs) (p : Path) (n : Node) (hp : p ≠ []) : (fs.setNode p n).lookup p = some n := by
  unfold Fs.lookup Fs.setNode
  simp only [hp, if_false]
  rw [find?_filter_append_eq]; rfl

theorem mem_setNode {fs : Fs} {p : Path} {n : Node} {x : Path × Node} (h : x ∈ (fs.setNode p n).nodes) :
    x ∈ fs.nodes ∨ x = (p, n) := by
  simp only [Fs.setNode, List.mem_append, List.mem_filter, List.mem_singleton] at h
  exact h.imp And.left id

theorem lookup_none_not_mem {fs : Fs} {p : Path} (h : fs.lookup p = none) (n : Node) : (p, n) ∉ fs.nodes := by
  intro hm
  unfold Fs.lookup at h
  split at h
  · cases h
  · simp only [Option.map_eq_none_iff] at h
    have := List.find?_eq_none.1 h (p, n) hm
    simp at this

theorem lookup_filter_true (fs : Fs) (P : Path → Bool) (q : Path) (hq : P q = true) :
    ({ fs with nodes := fs.nodes.filter (fun n => P n.1) } : Fs).lookup q = fs.lookup q := by
  unfold Fs.lookup
  by_cases hn : q = []
  · simp [hn]
  · simp only [hn, if_false]
    rw [find?_filter_key (fun x hx => by rw [hx, hq]) fs.nodes]

theorem lookup_filter_false (fs : Fs) (P : Path → Bool) (q : Path) (hq : P q = false) (hn : q ≠ []) :
    ({ fs with nodes := fs.nodes.filter (fun n => P n.1) } : Fs).lookup q = none := by
  unfold Fs.lookup
  simp only [hn, if_false, Option.map_eq_none_iff]
  apply List.find?_eq_none.2
  intro x hx
  have := (List.mem_filter.1 hx).2
  intro e
  have e' : x.1 = q := by simpa using e
  rw [e', hq] at this; cases this

theorem content_setContent_eq (fs : Fs) (j : Nat) (c : Bytes) : (fs.setContent j c).content j = c := by
  unfold Fs.content Fs.setContent
  simp only
  rw [find?_filter_append_eq]; rfl

def Preserved (a b : Fs) : Prop :=
  (∀ p n, p ≠ [] → a.lookup p = some n → b.lookup p = some n) ∧
  (∀ p ino, a.lookup p = some (.file ino) → b.content ino = a.content ino)

theorem Preserved.refl (a : Fs) : Preserved a a := ⟨fun _ _ _ h => h, fun _ _ _ => rfl⟩

theorem Preserved.trans {a b c : Fs} (h1 : Preserved a b) (h2 : Preserved b c) : Preserved a c := by
  refine ⟨fun p n hp h => h2.1 p n hp (h1.1 p n hp h), fun p ino h => ?_⟩
  rw [h2.2 p ino (h1.1 p _ (lookup_file_ne_nil h) h), h1.2 p ino h]

/-- what makes `nextIno` an inode in use nowhere -/
def _root_.Pna.Fs.Fs.InoOk (fs : Fs) : Prop := (∀ p n ino, (p, n) ∈ fs.nodes → n = .file ino → ino < fs.nextIno) ∧ (∀ i c, (i, c) ∈ fs.inodes → i < fs.nextIno)

/-- what `File::create` and `create_new` do at a free name `p` -/
def _root_.Pna.Fs.Fs.withNewFile (fs : Fs) (p : Path) (c : Bytes) : Fs :=
  { (fs.setNode p (.file fs.nextIno)).setContent fs.nextIno c with nextIno := fs.nextIno + 1 }

theorem lookup_withNewFile (fs : Fs) (p q : Path) (c : Bytes) :
    (fs.withNewFile p c).lookup q = (fs.setNode p (.file fs.nextIno)).lookup q := rfl

theorem setNode_fresh_preserved (fs : Fs) (p : Path) (n : Node) (h : fs.lookup p = none) : Preserved fs (fs.setNode p n) := by
  refine ⟨fun q m _ hq => ?_, fun q ino _ => rfl⟩
  have : q ≠ p := by intro e; subst e; rw [h] at hq; cases hq
  rw [lookup_setNode_ne _ _ _ _ this]; exact hq

theorem setNode_dir_inoOk (fs : Fs) (p : Path) (h : fs.InoOk) : (fs.setNode p .dir).InoOk := by
  refine ⟨fun q n ino hm hn => ?_, h.2⟩
  rcases mem_setNode hm with hm | hm
  · exact h.1 q n ino hm hn
  · cases hm; cases hn

theorem newFile_preserved (fs : Fs) (p : Path) (c : Bytes)
    (hfresh : ∀ q ino, fs.lookup q = some (.file ino) → ino < fs.nextIno) (h : fs.lookup p = none) :
    Preserved fs (fs.withNewFile p c) := by
  refine ⟨fun q m hq hl => (setNode_fresh_preserved fs p (.file fs.nextIno) h).1 q m hq hl, fun q ino hl => ?_⟩
  exact content_setContent_ne (fs.setNode p (.file fs.nextIno)) ino fs.nextIno c (Nat.ne_of_lt (hfresh q ino hl))

theorem _root_.Pna.Fs.Fs.InoOk.lookup {fs : Fs} (hok : fs.InoOk) (q : Path) (ino : Nat) (h : fs.lookup q = some (.file ino)) :
    ino < fs.nextIno := hok.1 q _ ino (lookup_mem (lookup_file_ne_nil h) h) rfl

theorem newFile_inoOk (fs : Fs) (p : Path) (c : Bytes) (hok : fs.InoOk) : (fs.withNewFile p c).InoOk := by
  refine ⟨fun q n ino hm hn => ?_, fun i d hm => ?_⟩
  · rcases mem_setNode (p := p) (n := .file fs.nextIno) hm with hm | hm
    · exact Nat.lt_succ_of_lt (hok.1 q n ino hm hn)
    · cases hm; cases hn; exact Nat.lt_succ_self _
  · simp [Fs.withNewFile, Fs.setNode, Fs.setContent] at hm
    rcases hm with hm | hm
    · exact Nat.lt_succ_of_lt (hok.2 i d hm.1)
    · rw [hm.1]; exact Nat.lt_succ_self _

structure Grows (a b : Fs) : Prop where
  ino : a.nextIno ≤ b.nextIno
  len : a.nodes.length ≤ b.nodes.length
  files : ∀ p i, b.lookup p = some (.file i) → a.lookup p = some (.file i) ∨ a.nextIno ≤ i

theorem Grows.refl (fs : Fs) : Grows fs fs := ⟨Nat.le_refl _, Nat.le_refl _, fun _ _ h => Or.inl h⟩

theorem Grows.trans {a b c : Fs} (h1 : Grows a b) (h2 : Grows b c) : Grows a c :=
  ⟨Nat.le_trans h1.ino h2.ino, Nat.le_trans h1.len h2.len, fun p i h =>
    (h2.files p i h).elim (h1.files p i) (fun h' => Or.inr (Nat.le_trans h1.ino h'))⟩

theorem grows_setNode {fs : Fs} {p : Path} {n : Node} (h : fs.lookup p = none)
    (hn : ∀ i, n = .file i → fs.nextIno ≤ i) : Grows fs (fs.setNode p n) := by
  refine ⟨Nat.le_refl _, ?_, fun q i hq => ?_⟩
  · have : fs.nodes.filter (·.1 != p) = fs.nodes :=
      List.filter_eq_self.2 fun x hx => by
        simp only [bne_iff_ne, ne_eq]
        intro e
        exact lookup_none_not_mem h x.2 (by rw [← e]; exact hx)
    show fs.nodes.length ≤ ((fs.nodes.filter (·.1 != p)) ++ [(p, n)]).length
    rw [this]; simp
  · by_cases e : q = p
    · rw [e, lookup_setNode_eq _ _ _ (lookup_none_ne_nil h)] at hq
      exact Or.inr (hn i (Option.some.inj hq))
    · rw [lookup_setNode_ne _ _ _ _ e] at hq; exact Or.inl hq

theorem grows_withNewFile {fs : Fs} {p : Path} (c : Bytes) (h : fs.lookup p = none) : Grows fs (fs.withNewFile p c) :=
  have g := grows_setNode (n := .file fs.nextIno) h (fun i hi => by cases hi; exact Nat.le_refl _)
  ⟨Nat.le_succ _, g.len, g.files⟩

theorem createFile_ok_iff {fs fs' : Fs} {cwd : Path} {s c : Bytes} :
    fs.createFile cwd s c = .ok fs' ↔
    ∃ p, resolve fs true (fuelFor fs) (if isAbs s then [] else cwd) (comps s) = some p ∧
      ((∃ ino, fs.lookup p = some (.file ino) ∧ fs.setContent ino c = fs') ∨
       (fs.lookup p = none ∧ fs.lookup p.dropLast = some .dir ∧ fs.withNewFile p c = fs')) := by
  unfold Fs.createFile Fs.withNewFile
  cases resolve fs true (fuelFor fs) (if isAbs s then [] else cwd) (comps s) with
  | none => simp
  | some p =>
    simp only [Option.some.injEq, exists_eq_left']
    cases fs.lookup p with
    | none =>
      simp only [reduceCtorEq, false_and, exists_false, true_and, false_or]
      split <;> simp_all
    | some n => cases n <;> simp

theorem symlink_ok_iff {fs fs' : Fs} {cwd : Path} {target s : Bytes} :
    fs.symlink cwd target s = .ok fs' ↔
    ∃ p, entryPath fs cwd s = some p ∧ fs.lookup p = none ∧ fs.lookup p.dropLast = some .dir ∧
      fs.setNode p (.link target) = fs' := by
  unfold Fs.symlink
  cases entryPath fs cwd s with
  | none => simp
  | some p =>
    simp only [Option.some.injEq, exists_eq_left']
    split <;> simp_all

inductive MkDirs : Fs → Fs → Prop
  | refl (fs : Fs) : MkDirs fs fs
  | step {fs fs' : Fs} {p : Path} : fs.lookup p = none → MkDirs (fs.setNode p .dir) fs' → MkDirs fs fs'

theorem createDirAll_go_mkDirs : ∀ (fuel : Nat) (fs : Fs) (cur : Path) (todo : List Bytes) (fs' : Fs),
    Fs.createDirAll.go fs cur fuel todo = .ok fs' → MkDirs fs fs' := by
  intro fuel
  induction fuel with
  | zero => intro fs cur todo fs' h; simp [Fs.createDirAll.go] at h
  | succ fuel ih =>
    intro fs cur todo fs' h
    cases todo with
    | nil =>
      simp [Fs.createDirAll.go] at h
      subst h; exact .refl _
    | cons c rest =>
      simp only [Fs.createDirAll.go] at h
      split at h
      · exact ih _ _ _ _ h
      · split at h
        · rename_i hl
          exact .step hl (ih _ _ _ _ h)
        · exact ih _ _ _ _ h
        · cases h
        · split at h
          · cases h
          · split at h
            · exact ih _ _ _ _ h
            · cases h

/-- the fuel is a real limit of the model: for `C02C.compose_depth_needed` -/
theorem createDirAll_go_loop : ∀ (fuel : Nat) (fs : Fs) (cur : Path) (cs : List Bytes),
    (∀ n ∈ fs.nodes, n.2 = .dir) → fuel ≤ cs.length → Fs.createDirAll.go fs cur fuel cs = .error .loop := by
  intro fuel
  induction fuel with
  | zero => intro fs cur cs _ _; cases cs <;> rfl
  | succ fuel ih =>
    intro fs cur cs hd hf
    cases cs with
    | nil => simp at hf
    | cons c rest =>
      have hf' : fuel ≤ rest.length := by simpa using hf
      have hne : cur ++ [c] ≠ [] := by simp
      simp only [Fs.createDirAll.go]
      split
      · exact ih _ _ _ hd hf'
      · split
        · refine ih _ _ _ (fun n hn => ?_) hf'
          rcases mem_setNode hn with hn | rfl
          · exact hd n hn
          · rfl
        · exact ih _ _ _ hd hf'
        · rename_i i h; exact absurd (hd _ (lookup_mem hne h)) (by simp)
        · rename_i t h; exact absurd (hd _ (lookup_mem hne h)) (by simp)

theorem MkDirs.preserved {a b : Fs} (h : MkDirs a b) : Preserved a b ∧ (a.InoOk → b.InoOk) := by
  induction h with
  | refl => exact ⟨Preserved.refl _, id⟩
  | step hl _ ih => exact ⟨(setNode_fresh_preserved _ _ .dir hl).trans ih.1, fun hok => ih.2 (setNode_dir_inoOk _ _ hok)⟩

theorem MkDirs.grows {a b : Fs} (h : MkDirs a b) : Grows a b := by
  induction h with
  | refl => exact Grows.refl _
  | step hl _ ih => exact (grows_setNode hl (fun i hi => by cases hi)).trans ih

theorem createDirAll_preserved (fs fs' : Fs) (cwd : Path) (s : Bytes) (h : fs.createDirAll cwd s = .ok fs') :
    Preserved fs fs' ∧ (fs.InoOk → fs'.InoOk) := (createDirAll_go_mkDirs _ _ _ _ _ h).preserved

theorem createDirAll_grows {fs fs' : Fs} {cwd : Path} {s : Bytes} (h : fs.createDirAll cwd s = .ok fs') :
    Grows fs fs' := (createDirAll_go_mkDirs _ _ _ _ _ h).grows

theorem createFile_grows {fs fs' : Fs} {cwd : Path} {s c : Bytes} (h : fs.createFile cwd s c = .ok fs') :
    Grows fs fs' := by
  obtain ⟨p, _, ⟨ino, _, rfl⟩ | ⟨hnone, _, rfl⟩⟩ := createFile_ok_iff.1 h
  · exact ⟨Nat.le_refl _, Nat.le_refl _, fun _ _ hq => Or.inl hq⟩
  · exact grows_withNewFile c hnone

end Pna.Cli
