import PnaVerif.Model.Chunk
import PnaVerif.Lemmas.Outcome
import PnaVerif.Lemmas.Crc32
import PnaVerif.Lemmas.Bytes
/-! Chunk framing.  Every byte string is either *short* (fewer than `12 + announced length` bytes:
    the parser answers `eof`) or a *frame* `lenB ++ type ++ data ++ crcB ++ rest` (the parser's answer
    is decided by the CRC comparison alone); `decodeStream_short`, `decodeStream_frame` and
    `short_or_frame` say so, and the round trip, its converse, totality and the prefix statement are
    read off from them; `decodeStream_alter`: one altered byte outside the length field is `InvalidData`. -/
namespace Pna

namespace ChunkType

@[simp] theorem toBytes_length (t : ChunkType) : t.toBytes.length = 4 := rfl

theorem ofBytes?_toBytes (t : ChunkType) : ofBytes? t.toBytes = some t := rfl

theorem toBytes_of_ofBytes? {bs : Bytes} {t : ChunkType} (h : ofBytes? bs = some t) : t.toBytes = bs := by
  match bs, h with
  | [a, b, c, d], h => simp [ofBytes?] at h; subst h; rfl

end ChunkType

theorem readExact_eq (n : Nat) (bs : Bytes) :
    readExact n bs = if bs.length < n then .error .eof else .ok (bs.take n, bs.drop n) := rfl

theorem splitFirstChunk_eq (n : Nat) (bs : Bytes) :
    splitFirstChunk n bs = if n ≤ bs.length then some (bs.take n, bs.drop n) else none := rfl

theorem readExact_append {a : Bytes} {n : Nat} (h : a.length = n) (r : Bytes) :
    readExact n (a ++ r) = .ok (a, r) := by
  subst h; simp [readExact]

theorem readExact_short {n : Nat} {bs : Bytes} (h : bs.length < n) : readExact n bs = .error .eof :=
  if_pos h

theorem readExact_take_short (e : Bytes) (k n : Nat) (hk : k < n) :
    readExact n (e.take k) = .error .eof :=
  readExact_short (by rw [List.length_take]; omega)

theorem readExact_le {n : Nat} {bs : Bytes} (h : n ≤ bs.length) :
    readExact n bs = .ok (bs.take n, bs.drop n) :=
  if_neg (by omega)

theorem readExact_bind_eq_ok {β} {n : Nat} {bs : Bytes} {f : Bytes × Bytes → Outcome β} {v : β} :
    (readExact n bs >>= f) = .ok v ↔ n ≤ bs.length ∧ f (bs.take n, bs.drop n) = .ok v := by
  by_cases h : n ≤ bs.length
  · simp [readExact_le h, h]
  · simp [readExact_short (Nat.lt_of_not_le h), h]

theorem readExact_append_bind {α} (a rest : Bytes) (n : Nat) (h : a.length = n) (f : Bytes × Bytes → Outcome α) :
    (readExact n (a ++ rest) >>= f) = f (a, rest) := by
  rw [readExact_append h]; rfl

theorem readExact_no_panic (n : Nat) (bs : Bytes) : (readExact n bs).isPanic = false := by
  unfold readExact; split <;> rfl

/-- C03 at chunk level.  Everything below is stated for `decodeStream` only. -/
theorem decodeSlice_eq_decodeStream (bs : Bytes) : decodeSlice bs = decodeStream bs := by
  unfold decodeSlice decodeStream splitFirstChunk splitPayload
  by_cases h1 : 4 ≤ bs.length
  · rw [if_pos h1, readExact_le h1]
    by_cases h2 : 4 ≤ (bs.drop 4).length
    · simp only [if_pos h2, readExact_le h2, Outcome.bind_ok]
      by_cases h3 : fromBe (bs.take 4) ≤ ((bs.drop 4).drop 4).length
      · simp only [if_pos h3, readExact_le h3, Outcome.bind_ok]
        by_cases h4 : 4 ≤ (((bs.drop 4).drop 4).drop (fromBe (bs.take 4))).length
        · simp only [if_pos h4, readExact_le h4, Outcome.bind_ok]
        · simp only [if_neg h4, readExact_short (Nat.lt_of_not_le h4), Outcome.bind_error]
      · simp only [if_neg h3, readExact_short (Nat.lt_of_not_le h3), Outcome.bind_error]
    · simp only [if_neg h2, readExact_short (Nat.lt_of_not_le h2), Outcome.bind_error, Outcome.bind_ok]
  · rw [if_neg h1, readExact_short (Nat.lt_of_not_le h1)]; rfl

theorem readSigSlice_eq_readSigStream (bs : Bytes) : readSigSlice bs = readSigStream bs := by
  unfold readSigSlice readSigStream splitPayload
  by_cases h : 8 ≤ bs.length
  · rw [if_pos h, readExact_le h]; rfl
  · rw [if_neg h, readExact_short (Nat.lt_of_not_le h)]; rfl

theorem signature_length : signature.length = 8 := rfl

theorem readSigStream_sig (r : Bytes) : readSigStream (signature ++ r) = .ok r := by
  unfold readSigStream
  rw [readExact_append_bind signature r 8 rfl]
  simp

theorem readSigStream_take_short (bs : Bytes) (k : Nat) (hk : k < 8) : readSigStream (bs.take k) = .error .eof := by
  unfold readSigStream
  rw [readExact_take_short _ _ _ hk]; rfl

theorem readSigStream_ok_inv (bs r : Bytes) (h : readSigStream bs = .ok r) : bs = signature ++ r := by
  obtain ⟨-, h⟩ := readExact_bind_eq_ok.mp h
  obtain ⟨hs, h⟩ := guard_eq_ok.mp h
  cases h
  rw [← Classical.not_not.mp hs, List.take_append_drop]

theorem readSigStream_no_panic (bs : Bytes) : (readSigStream bs).isPanic = false :=
  bind_no_panic _ _ (readExact_no_panic 8 bs) fun _ => guard_no_panic _ _ _ rfl

theorem chunksSlice_eq_chunksStream (bs : Bytes) : chunksSlice bs = chunksStream bs := by
  unfold chunksSlice chunksStream
  rw [readSigSlice_eq_readSigStream, funext decodeSlice_eq_decodeStream]

namespace Chunk

theorem encode_length (c : Chunk) : c.encode.length = 12 + c.data.length := by
  simp [encode]; omega

theorem bytesLen_def (c : Chunk) : c.bytesLen = 12 + c.data.length := rfl

theorem bytesLen_eq_encode_length (c : Chunk) : c.bytesLen = c.encode.length := by
  rw [encode_length]; rfl

theorem flatMap_encode_length (cs : List Chunk) :
    (cs.flatMap Chunk.encode).length = (cs.map Chunk.bytesLen).sum := by
  induction cs with
  | nil => rfl
  | cons c cs ih =>
    simp only [List.map_cons, List.sum_cons, List.flatMap_cons, List.length_append, ih, bytesLen_eq_encode_length]

theorem crc_lt (c : Chunk) : c.crc < 2 ^ 32 := Crc32.crc32_lt _

end Chunk

theorem isStream_cases {c : Chunk} (h : c.isStream = true) : c.ty = ChunkType.FDAT ∨ c.ty = ChunkType.SDAT := by
  simpa [Chunk.isStream, ChunkType.isStream] using h

theorem stream_not_marker {c : Chunk} (h : c.isStream = true) :
    ¬ (c.ty = ChunkType.FEND ∨ c.ty = ChunkType.SEND) ∧ c.ty ≠ ChunkType.ANXT ∧ c.ty ≠ ChunkType.AEND := by
  rcases isStream_cases h with h | h <;> rw [h] <;> decide

theorem ChunkType.eq_toBytes_of_length {tyB : Bytes} (h : tyB.length = 4) :
    ∃ ty, tyB = ChunkType.toBytes ty :=
  match tyB, h with
  | [a, b, c, d], _ => ⟨⟨a, b, c, d⟩, rfl⟩

theorem decodeStream_short {bs : Bytes} (h : bs.length < 12 + fromBe (bs.take 4)) :
    decodeStream bs = .error .eof := by
  unfold decodeStream
  by_cases h1 : bs.length < 4
  · rw [readExact_short h1]; rfl
  simp only [readExact_le (Nat.le_of_not_lt h1), Outcome.bind_ok]
  by_cases h2 : (bs.drop 4).length < 4
  · rw [readExact_short h2]; rfl
  simp only [readExact_le (Nat.le_of_not_lt h2), Outcome.bind_ok]
  by_cases h3 : ((bs.drop 4).drop 4).length < fromBe (bs.take 4)
  · rw [readExact_short h3]; rfl
  simp only [readExact_le (Nat.le_of_not_lt h3), Outcome.bind_ok]
  rw [readExact_short (by simp only [List.length_drop] at *; omega)]; rfl

theorem decodeStream_frame {lenB crcB : Bytes} (ty : ChunkType) (data r : Bytes)
    (hl : lenB.length = 4) (hn : fromBe lenB = data.length) (hc : crcB.length = 4) :
    decodeStream (lenB ++ (ty.toBytes ++ (data ++ (crcB ++ r))))
      = if fromBe crcB ≠ (Chunk.mk ty data).crc then .error .invalidData else .ok (⟨ty, data⟩, r) := by
  unfold decodeStream
  rw [readExact_append hl]
  simp only [Outcome.bind_ok]
  rw [readExact_append ty.toBytes_length, Outcome.bind_ok, readExact_append hn.symm, Outcome.bind_ok,
    readExact_append hc]
  rfl

theorem short_or_frame (bs : Bytes) :
    bs.length < 12 + fromBe (bs.take 4) ∨
    ∃ lenB ty data crcB r, bs = lenB ++ (ChunkType.toBytes ty ++ (data ++ (crcB ++ r))) ∧
      lenB.length = 4 ∧ fromBe lenB = data.length ∧ crcB.length = 4 := by
  by_cases h : bs.length < 12 + fromBe (bs.take 4)
  · exact .inl h
  · obtain ⟨ty, hty⟩ := ChunkType.eq_toBytes_of_length (tyB := (bs.drop 4).take 4) (by simp; omega)
    -- cut four times: length field, type, payload, CRC field
    refine .inr ⟨bs.take 4, ty, ((bs.drop 4).drop 4).take (fromBe (bs.take 4)),
      (((bs.drop 4).drop 4).drop (fromBe (bs.take 4))).take 4,
      (((bs.drop 4).drop 4).drop (fromBe (bs.take 4))).drop 4, ?_, ?_, ?_, ?_⟩
    · rw [← hty, List.take_append_drop, List.take_append_drop, List.take_append_drop, List.take_append_drop]
    all_goals simp; omega

theorem decodeStream_encode (c : Chunk) (r : Bytes) (h : c.data.length < 2 ^ 32) :
    decodeStream (c.encode ++ r) = .ok (c, r) := by
  have := decodeStream_frame c.ty c.data r (be32_length _) (fromBe_be32_lt h) (be32_length c.crc)
  rw [fromBe_be32_lt c.crc_lt, if_neg (fun h => h rfl)] at this
  simpa [Chunk.encode] using this

theorem decodeStream_ok_inv (bs : Bytes) (c : Chunk) (r : Bytes)
    (h : decodeStream bs = .ok (c, r)) : c.encode ++ r = bs ∧ c.data.length < 2 ^ 32 := by
  rcases short_or_frame bs with hs | ⟨lenB, ty, data, crcB, r', rfl, hl, hn, hc⟩
  · rw [decodeStream_short hs] at h; cases h
  · rw [decodeStream_frame ty data r' hl hn hc] at h
    split at h
    · cases h
    · rename_i hcrc
      cases h
      have hlt := fromBe_lt lenB
      rw [hl, hn] at hlt
      refine ⟨?_, hlt⟩
      simp only [Chunk.encode, ← hn, ← Classical.not_not.mp hcrc, be32_fromBe _ hl, be32_fromBe _ hc,
        List.append_assoc]

theorem decodeStream_no_panic (bs : Bytes) : (decodeStream bs).isPanic = false := by
  rcases short_or_frame bs with hs | ⟨lenB, ty, data, crcB, r', rfl, hl, hn, hc⟩
  · rw [decodeStream_short hs]; rfl
  · rw [decodeStream_frame ty data r' hl hn hc]; split <;> rfl

theorem decodeStream_rest_le (bs : Bytes) (c : Chunk) (r : Bytes)
    (h : decodeStream bs = .ok (c, r)) : r.length + 12 ≤ bs.length := by
  rw [← (decodeStream_ok_inv bs c r h).1, List.length_append, Chunk.encode_length]; omega

theorem decodeStream_prefix_eof (c : Chunk) (r : Bytes) (k : Nat)
    (hlen : c.data.length < 2 ^ 32) (hk : k < c.encode.length) :
    decodeStream ((c.encode ++ r).take k) = .error .eof := by
  rw [Chunk.encode_length] at hk
  apply decodeStream_short
  rw [List.length_take, List.take_take]
  by_cases h4 : k < 4
  · omega
  · rw [Nat.min_eq_left (Nat.le_of_not_lt h4), Chunk.encode]
    simp only [List.append_assoc]
    rw [List.take_left' (be32_length _), fromBe_be32_lt hlen]
    omega

/-- `w` is type and data together, so that an altered type byte and an altered data byte are one case of
    `decodeStream_alter`. -/
theorem decodeStream_bad_crc {lenB w crcB : Bytes} (r : Bytes) (hl : lenB.length = 4)
    (hn : 4 + fromBe lenB = w.length) (hc : crcB.length = 4) (hne : fromBe crcB ≠ Crc32.crc32 w) :
    decodeStream (lenB ++ (w ++ (crcB ++ r))) = .error .invalidData := by
  obtain ⟨ty, hty⟩ := ChunkType.eq_toBytes_of_length (tyB := w.take 4) (by simp; omega)
  have hw : w = ty.toBytes ++ w.drop 4 := by rw [← hty, List.take_append_drop]
  rw [hw, List.append_assoc, decodeStream_frame ty _ r hl (by simp; omega) hc, if_pos]
  rw [Chunk.crc, ← hw]; exact hne

theorem Chunk.encode_split (c : Chunk) :
    c.encode = be32 c.data.length ++ ((c.ty.toBytes ++ c.data) ++ be32 c.crc) := by
  simp [Chunk.encode, List.append_assoc]

/-- C05 at chunk level.  An altered byte in type or data changes the CRC of the covered bytes and not the
    stored one, in the CRC field the stored one and not the covered bytes.  `hj4` excludes the length field,
    which the CRC does not cover. -/
theorem decodeStream_alter (c : Chunk) (r : Bytes) (hlen : c.data.length < 2 ^ 32)
    (j : Nat) (hj4 : 4 ≤ j) (hj : j < c.encode.length) (v : UInt8) (hv : v ≠ c.encode[j]) :
    decodeStream ((c.encode ++ r).set j v) = .error .invalidData := by
  have hj' := hj
  rw [Chunk.encode_length] at hj'
  have hl := be32_length c.data.length
  have hn := fromBe_be32_lt hlen
  simp only [Chunk.encode_split] at hv ⊢
  rw [List.getElem_append_right (by simp; omega)] at hv
  rw [List.append_assoc, List.set_append_right _ _ (by simp; omega), List.append_assoc]
  simp only [hl] at hv ⊢
  by_cases hb : j - 4 < (c.ty.toBytes ++ c.data).length
  · rw [List.getElem_append_left hb] at hv
    rw [List.set_append_left _ _ hb]
    refine decodeStream_bad_crc r hl (by simp; omega) (be32_length _) ?_
    rw [fromBe_be32_lt c.crc_lt]
    exact fun h => Crc32.crc32_set_ne _ _ hb v hv h.symm
  · rw [List.getElem_append_right (Nat.le_of_not_lt hb)] at hv
    rw [List.set_append_right _ _ (Nat.le_of_not_lt hb), List.set_append_left _ _ (by simp at hb ⊢; omega)]
    refine decodeStream_bad_crc r hl (by simp; omega) (by simp) fun h => hv ?_
    have := be32_fromBe ((be32 c.crc).set (j - 4 - (c.ty.toBytes ++ c.data).length) v) (by simp)
    rw [h, ← Chunk.crc] at this
    rw [List.getElem_of_eq this]
    simp

theorem decodeStream_alter_len (c : Chunk) (r : Bytes) (j : Nat) (hj : j < c.encode.length)
    (v : UInt8) (hv : v ≠ c.encode[j]) (d : Chunk) (r2 : Bytes)
    (h : decodeStream ((c.encode ++ r).set j v) = .ok (d, r2)) : d ≠ c := by
  intro hdc
  subst hdc
  have h1 := (decodeStream_ok_inv _ _ _ h).1
  rw [List.set_append_left _ _ hj] at h1
  have h2 := congrArg (fun l => l[j]?) h1
  rw [List.getElem?_append_left hj, List.getElem?_append_left (by simpa using hj),
    List.getElem?_eq_getElem hj, List.getElem?_set_self hj] at h2
  exact hv (Option.some.inj h2).symm

end Pna
