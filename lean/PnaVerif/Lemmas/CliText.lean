import PnaVerif.Model.Cli.Acl
import PnaVerif.Lemmas.SplitJoin
import PnaVerif.Lemmas.ListFacts
/-! Lemmas about the CLI textual codecs (`Model/Cli/Text.lean`): split/join, name-table sets,
    access-control entries, hex and base64 xattr values, UTF-8 (`decodeUtf8_utf8`, of Model/Cli/Acl.lean). -/
namespace Pna.Cli.Text

theorem splitOn_eq (sep : Char) (s : Str) : splitOn sep s = s.splitOn sep := by
  induction s with
  | nil => rfl
  | cons c cs ih =>
    rw [splitOn, ih, List.splitOn_cons_eq_match]
    cases cs.splitOn sep <;> rfl

theorem join_eq (sep : Char) (xs : List Str) : join sep xs = [sep].intercalate xs := by
  fun_induction join sep xs with
  | case1 => rfl
  | case2 x => exact List.intercalate_singleton.symm
  | case3 x y xs ih => simp [ih, List.intercalate_cons_cons]

/-- primary names selected by a bit set -/
def selNames (table : List (Nat × List Str)) (bits : Bits) : List Str :=
  (table.zip bits).filterMap fun (row, b) => if b then row.2.head? else none

theorem showSet_eq (table : List (Nat × List Str)) (bits : Bits) :
    showSet table bits = join ',' (selNames table bits) := rfl

/-- Side conditions on a name table under which `parseSet ∘ showSet = id`. -/
structure TableOK (t : List (Nat × List Str)) : Prop where
  /-- the empty set prints as `""`, which splits into the one token `""` -/
  nonempty : ∀ r ∈ t, ∀ n ∈ r.2, n ≠ []
  hasPrim : ∀ r ∈ t, r.2 ≠ []
  /-- a primary name holds neither the separator of a set nor that of the fields of an entry -/
  noComma : ∀ r ∈ t, ∀ n ∈ r.2.head?, ',' ∉ n
  noColon : ∀ r ∈ t, ∀ n ∈ r.2.head?, ':' ∉ n
  /-- the primary name of a row is not a name (primary or alias) of any other row -/
  distinct : t.Pairwise fun r1 r2 =>
    (∀ n ∈ r2.2.head?, n ∉ r1.2) ∧ (∀ n ∈ r1.2.head?, n ∉ r2.2)

instance (t : List (Nat × List Str)) : Decidable (TableOK t) :=
  if h : (∀ r ∈ t, ∀ n ∈ r.2, n ≠ []) ∧ (∀ r ∈ t, r.2 ≠ []) ∧
      (∀ r ∈ t, ∀ n ∈ r.2.head?, ',' ∉ n) ∧ (∀ r ∈ t, ∀ n ∈ r.2.head?, ':' ∉ n) ∧
      (t.Pairwise fun r1 r2 => (∀ n ∈ r2.2.head?, n ∉ r1.2) ∧ (∀ n ∈ r1.2.head?, n ∉ r2.2))
  then isTrue ⟨h.1, h.2.1, h.2.2.1, h.2.2.2.1, h.2.2.2.2⟩
  else isFalse fun k => h ⟨k.1, k.2, k.3, k.4, k.5⟩

/-! The name tables (and below the base64 alphabet) once more, as lists of characters: the kernel evaluates `"…".toList`
    by running core's UTF-8 decoder, dearly and again in every declaration (see Lemmas/AclFast.lean), so whatever
    evaluates over a table rewrites with these equations first. -/

def flagT : List (Nat × List Str) :=
  [(1, [['d'], ['d','e','f','a','u','l','t']]),
   (4, [['f','i','l','e','_','i','n','h','e','r','i','t']]),
   (8, [['d','i','r','e','c','t','o','r','y','_','i','n','h','e','r','i','t']]),
   (32, [['o','n','l','y','_','i','n','h','e','r','i','t']]),
   (16, [['l','i','m','i','t','_','i','n','h','e','r','i','t']]),
   (2, [['i','n','h','e','r','i','t','e','d']])]

def permT : List (Nat × List Str) :=
  [(1, [['r'], ['r','e','a','d']]),
   (2, [['w'], ['w','r','i','t','e']]),
   (4, [['x'], ['e','x','e','c','u','t','e']]),
   (8, [['d','e','l','e','t','e']]),
   (16, [['a','p','p','e','n','d']]),
   (32, [['d','e','l','e','t','e','_','c','h','i','l','d']]),
   (64, [['r','e','a','d','a','t','t','r']]),
   (128, [['w','r','i','t','e','a','t','t','r']]),
   (256, [['r','e','a','d','e','x','t','a','t','t','r']]),
   (512, [['w','r','i','t','e','e','x','t','a','t','t','r']]),
   (1024, [['r','e','a','d','s','e','c','u','r','i','t','y']]),
   (2048, [['w','r','i','t','e','s','e','c','u','r','i','t','y']]),
   (4096, [['c','h','o','w','n']]),
   (8192, [['s','y','n','c']]),
   (16384, [['r','e','a','d','_','d','a','t','a']]),
   (32768, [['w','r','i','t','e','_','d','a','t','a']])]

theorem flagTable_eq : flagTable = flagT := by
  unfold flagTable
  repeat rw [String.toList_ofList]
  rfl
theorem permTable_eq : permTable = permT := by
  unfold permTable
  repeat rw [String.toList_ofList]
  rfl

theorem b64Alphabet_eq : b64Alphabet = ['A','B','C','D','E','F','G','H','I','J','K','L','M','N','O','P','Q','R','S','T','U','V','W','X','Y','Z','a','b','c','d','e','f','g','h','i','j','k','l','m','n','o','p','q','r','s','t','u','v','w','x','y','z','0','1','2','3','4','5','6','7','8','9','+','/'] :=
  String.toList_ofList

theorem flagTable_ok : TableOK flagTable := by rw [flagTable_eq]; decide +kernel
theorem permTable_ok : TableOK permTable := by rw [permTable_eq]; decide +kernel

theorem mem_selNames {table : List (Nat × List Str)} {bits : Bits} {n : Str}
    (h : n ∈ selNames table bits) : ∃ r ∈ table, r.2.head? = some n := by
  unfold selNames at h
  rcases List.mem_filterMap.1 h with ⟨⟨r, b⟩, hz, hb⟩
  refine ⟨r, (List.of_mem_zip hz).1, ?_⟩
  cases b <;> simp at hb
  exact hb

theorem TableOK.tail {r : Nat × List Str} {t : List (Nat × List Str)} (h : TableOK (r :: t)) :
    TableOK t :=
  ⟨fun x hx => h.nonempty x (by simp [hx]), fun x hx => h.hasPrim x (by simp [hx]),
   fun x hx => h.noComma x (by simp [hx]), fun x hx => h.noColon x (by simp [hx]),
   (List.pairwise_cons.1 h.distinct).2⟩

/-- `parseSet_showSet_of_ok` with the token list abstracted, so that the induction over the rows of the table
    does not meet `splitOn` and `join`. -/
theorem parse_tokens (table : List (Nat × List Str)) (hok : TableOK table) (bits : Bits)
    (hlen : bits.length = table.length) (toks : List Str)
    (hsub : ∀ n ∈ selNames table bits, n ∈ toks)
    (hsup : ∀ n ∈ toks, n ∈ selNames table bits ∨ ∀ r ∈ table, n ∉ r.2) :
    (table.map fun row => toks.any fun t => row.2.contains t) = bits := by
  induction table generalizing bits with
  | nil => cases bits with
    | nil => rfl
    | cons _ _ => simp at hlen
  | cons row rest ih =>
    cases bits with
    | nil => simp at hlen
    | cons b bs =>
      -- `(hpw.1 r hr).1`: the primary name of a later row `r` is no name of `row`, so a token selected further down
      -- does not set the bit of `row`; `.2`: the primary name of `row` is no name of `r`, so for `rest` that token is
      -- a foreign one (right alternative of `hsup`)
      have hpw := List.pairwise_cons.1 hok.distinct
      have hsel : selNames (row :: rest) (b :: bs) =
          (if b then row.2.head?.toList else []) ++ selNames rest bs := by
        unfold selNames
        cases b <;> cases hh : row.2.head? <;> simp [hh]
      simp only [List.map_cons, List.cons.injEq]
      constructor
      · cases b with
        | true =>
          obtain ⟨n, ns, hrow⟩ := List.exists_cons_of_ne_nil (hok.hasPrim row (by simp))
          have hn : n ∈ toks := hsub n (by simp [hsel, hrow])
          simp only [List.any_eq_true, List.contains_iff_mem]
          exact ⟨n, hn, by simp [hrow]⟩
        | false =>
          cases hany : toks.any fun t => row.2.contains t with
          | false => rfl
          | true =>
            exfalso
            simp only [List.any_eq_true, List.contains_iff_mem] at hany
            obtain ⟨n, hn, hnr⟩ := hany
            rcases hsup n hn with hs | hs
            · simp [hsel] at hs
              obtain ⟨r, hr, hrn⟩ := mem_selNames hs
              exact (hpw.1 r hr).1 n (by simp [hrn]) hnr
            · exact hs row (by simp) hnr
      · refine ih hok.tail bs (by simpa using hlen) (fun n hn => hsub n (by simp [hsel, hn])) ?_
        intro n hn
        rcases hsup n hn with hs | hs
        · rw [hsel] at hs
          rcases List.mem_append.1 hs with hs | hs
          · right
            intro r hr
            cases b with
            | false => simp at hs
            | true =>
              simp at hs
              exact (hpw.1 r hr).2 n (by simp [hs])
          · exact Or.inl hs
        · exact Or.inr fun r hr => hs r (by simp [hr])

theorem selNames_noComma {table : List (Nat × List Str)} (hok : TableOK table) (bits : Bits) :
    ∀ n ∈ selNames table bits, ',' ∉ n := by
  intro n hn
  obtain ⟨r, hr, hrn⟩ := mem_selNames hn
  exact hok.noComma r hr n (by simp [hrn])

theorem parseSet_showSet_of_ok (table : List (Nat × List Str)) (hok : TableOK table) (bits : Bits)
    (hlen : bits.length = table.length) : parseSet table (showSet table bits) = bits := by
  unfold parseSet
  rw [showSet_eq, splitOn_eq, join_eq]
  apply parse_tokens table hok bits hlen
  · intro n hn
    have hne : selNames table bits ≠ [] := fun e => by simp [e] at hn
    rw [List.splitOn_intercalate ',' (selNames_noComma hok bits) hne]
    exact hn
  · intro n hn
    by_cases hne : selNames table bits = []
    · right
      rw [hne] at hn
      simp at hn
      subst hn
      intro r hr hm
      exact hok.nonempty r hr [] hm rfl
    · left
      rw [List.splitOn_intercalate ',' (selNames_noComma hok bits) hne] at hn
      exact hn

theorem showSet_noColon {table : List (Nat × List Str)} (hok : TableOK table) (bits : Bits) :
    ':' ∉ showSet table bits := by
  rw [showSet_eq, join_eq]
  intro h
  obtain h | ⟨n, hn, hc⟩ := List.mem_intercalate_singleton h
  · cases h
  · obtain ⟨r, hr, hrn⟩ := mem_selNames hn
    exact hok.noColon r hr n (by simp [hrn]) hc

theorem parseSet_length (table : List (Nat × List Str)) (s : Str) :
    (parseSet table s).length = table.length := by
  simp [parseSet]

def Owner.WF : Owner → Prop
  | .user n => n ≠ [] ∧ ':' ∉ n
  | .group n => n ≠ [] ∧ ':' ∉ n
  | _ => True

def Ace.WF (a : Ace) : Prop := a.flags.length = 6 ∧ a.perms.length = 16 ∧ a.owner.WF

instance (o : Owner) : Decidable o.WF := by
  cases o <;> unfold Owner.WF <;> infer_instance

instance (a : Ace) : Decidable a.WF := by unfold Ace.WF; infer_instance

def ownerKind : Owner → Str
  | .owner | .user _ => ['u']
  | .ownerGroup | .group _ => ['g']
  | .mask => ['m']
  | .other => ['o']

def ownerName : Owner → Str
  | .user n | .group n => n
  | _ => []

def accessStr (b : Bool) : Str := if b then "allow".toList else "deny".toList

theorem showOwner_eq (o : Owner) : showOwner o = ownerKind o ++ ':' :: ownerName o := by
  cases o <;> rfl

theorem showAce_eq_join (a : Ace) :
    showAce a = join ':' [showSet flagTable a.flags, ownerKind a.owner, ownerName a.owner,
      accessStr a.allow, showSet permTable a.perms] := by
  simp only [showAce, join, showOwner_eq, accessStr, List.append_assoc, List.cons_append]

theorem ownerKind_noColon (o : Owner) : ':' ∉ ownerKind o := by
  cases o <;> simp [ownerKind]

theorem ownerName_noColon (o : Owner) (h : o.WF) : ':' ∉ ownerName o := by
  cases o <;> simp [ownerName, Owner.WF] at * <;> exact h.2

theorem accessStr_noColon (b : Bool) : ':' ∉ accessStr b := by
  cases b <;> decide

theorem parseOwner_show (o : Owner) (h : o.WF) : parseOwner (ownerKind o) (ownerName o) = .ok o := by
  cases o with
  | user n => simp [Owner.WF] at h; simp [parseOwner, ownerKind, ownerName, h.1]
  | group n =>
    simp [Owner.WF] at h
    simp [parseOwner, ownerKind, ownerName, h.1]
  | owner => rfl
  | ownerGroup => rfl
  | mask => rfl
  | other => rfl

theorem showAce_split (a : Ace) (h : a.owner.WF) :
    splitOn ':' (showAce a) = [showSet flagTable a.flags, ownerKind a.owner, ownerName a.owner,
      accessStr a.allow, showSet permTable a.perms] := by
  rw [showAce_eq_join, splitOn_eq, join_eq]
  refine List.splitOn_intercalate ':' ?_ (by simp)
  intro x hx
  simp only [List.mem_cons, List.not_mem_nil, or_false] at hx
  rcases hx with rfl | rfl | rfl | rfl | rfl
  · exact showSet_noColon flagTable_ok _
  · exact ownerKind_noColon _
  · exact ownerName_noColon _ h
  · exact accessStr_noColon _
  · exact showSet_noColon permTable_ok _

theorem parseAce_showAce (a : Ace) (h : a.WF) : parseAce (showAce a) = .ok a := by
  obtain ⟨hf, hp, ho⟩ := h
  have hal : ¬ (accessStr a.allow ≠ "allow".toList ∧ accessStr a.allow ≠ "deny".toList) ∧
      decide (accessStr a.allow = "allow".toList) = a.allow := by
    cases a.allow <;> decide
  simp only [parseAce, showAce_split a ho, parseOwner_show _ ho, if_neg hal.1, hal.2,
    parseSet_showSet_of_ok flagTable flagTable_ok _ (by simpa [flagTable] using hf),
    parseSet_showSet_of_ok permTable permTable_ok _ (by simpa [permTable] using hp)]

theorem parseAce_ok {s : Str} {a : Ace} (h : parseAce s = .ok a) :
    ∃ f k n al pm, splitOn ':' s = [f, k, n, al, pm] ∧ parseOwner k n = .ok a.owner ∧
      a.flags = parseSet flagTable f ∧ a.perms = parseSet permTable pm := by
  revert h
  fun_cases parseAce s <;> rintro ⟨⟩
  exact ⟨_, _, _, _, _, ‹_›, ‹_›, rfl, rfl⟩

theorem parseOwner_WF {k n : Str} {o : Owner} (h : parseOwner k n = .ok o) (hn : ':' ∉ n) :
    o.WF := by
  revert h
  fun_cases parseOwner k n <;> rintro ⟨⟩
  · split <;> simp_all [Owner.WF]
  · split <;> simp_all [Owner.WF]
  · trivial
  · trivial

theorem parseAce_WF (s : Str) (a : Ace) (h : parseAce s = .ok a) : a.WF := by
  obtain ⟨f, k, n, al, pm, hs, ho, hf, hp⟩ := parseAce_ok h
  refine ⟨?_, ?_, parseOwner_WF ho (List.not_mem_of_mem_splitOn ':' s n (by simp [← splitOn_eq, hs]))⟩
  · rw [hf, parseSet_length]
    rfl
  · rw [hp, parseSet_length]
    rfl

theorem filter_sep_nil (sep : Char) (x : Str) (h : sep ∉ x) : x.filter (· = sep) = [] := by
  rw [List.filter_eq_nil_iff]
  intro c hc e
  exact h (of_decide_eq_true e ▸ hc)

/-- `parseAceP` takes five colons to mean a platform prefix; a printed entry has four. -/
theorem showAce_colons (a : Ace) (h : a.owner.WF) :
    ((showAce a).filter (· = ':')).length = 4 := by
  rw [showAce_eq_join]
  simp [join, List.filter_append,
    filter_sep_nil ':' _ (showSet_noColon flagTable_ok a.flags),
    filter_sep_nil ':' _ (showSet_noColon permTable_ok a.perms),
    filter_sep_nil ':' _ (ownerKind_noColon a.owner),
    filter_sep_nil ':' _ (ownerName_noColon a.owner h),
    filter_sep_nil ':' _ (accessStr_noColon a.allow)]

theorem hexDigit_ok : ∀ d, d < 16 →
    hexVal? (hexDigitChar d) = some d ∧ hexDigitChar d ≠ '+' ∧ hexDigitChar d ≠ '-' := by
  decide +kernel

theorem parseU8Hex_digits (x y : Nat) (hx : x < 16) (hy : y < 16) :
    parseU8Hex [hexDigitChar x, hexDigitChar y] = some (UInt8.ofNat (x * 16 + y)) := by
  obtain ⟨vx, px, _⟩ := hexDigit_ok x hx
  obtain ⟨vy, _, _⟩ := hexDigit_ok y hy
  unfold parseU8Hex
  split
  · rename_i h; exact absurd (List.cons.inj h).1 px
  · rename_i h; exact absurd (List.cons.inj h).2 nofun
  · rename_i h; exact absurd (List.cons.inj h).2 nofun
  · rename_i h; cases h
  · simp [vx, vy]

theorem parseU8Hex_byte (b : UInt8) :
    parseU8Hex [hexDigitChar (b.toNat / 16), hexDigitChar (b.toNat % 16)] = some b := by
  have hb := b.toNat_lt
  rw [parseU8Hex_digits _ _ (by omega) (by omega), Nat.div_add_mod' b.toNat 16, UInt8.ofNat_toNat]

theorem b64Val_b64Char : ∀ n, n < 64 → b64Val? (b64Char n) = some n := by
  unfold b64Char; rw [b64Alphabet_eq]; decide +kernel

theorem b64Char_ne_pad (n : Nat) (h : n < 64) : b64Char n ≠ '=' := by
  intro e
  have := b64Val_b64Char n h
  rw [e] at this
  cases this

/-- the sextets of three bytes and the bytes of four sextets, once for all three shapes of `b64Encode` -/
theorem b64_arith (a b c : UInt8) :
    a.toNat / 4 < 64 ∧ a.toNat % 4 * 16 + b.toNat / 16 < 64 ∧ b.toNat % 16 * 4 + c.toNat / 64 < 64 ∧ c.toNat % 64 < 64 ∧
    a.toNat / 4 * 4 + (a.toNat % 4 * 16 + b.toNat / 16) / 16 = a.toNat ∧
    (a.toNat % 4 * 16 + b.toNat / 16) % 16 * 16 + (b.toNat % 16 * 4 + c.toNat / 64) / 4 = b.toNat ∧
    (b.toNat % 16 * 4 + c.toNat / 64) % 4 * 64 + c.toNat % 64 = c.toNat := by
  have := a.toNat_lt
  have := b.toNat_lt
  have := c.toNat_lt
  omega

/-- core has no `DecidableEq (Except ε α)`; needed to `decide` concrete parse results -/
instance instDecidableEqExcept {ε α : Type} [DecidableEq ε] [DecidableEq α] :
    DecidableEq (Except ε α)
  | .ok a, .ok b => if h : a = b then isTrue (by rw [h]) else isFalse fun e => h (by injection e)
  | .error a, .error b =>
    if h : a = b then isTrue (by rw [h]) else isFalse fun e => h (by injection e)
  | .ok _, .error _ => isFalse nofun
  | .error _, .ok _ => isFalse nofun

end Pna.Cli.Text

namespace Pna.Cli
open Text

theorem parseAceP_showAce_noprefix (a : Ace) (h : a.WF) : parseAceP (showAce a) = .ok (none, a) := by
  unfold parseAceP
  rw [if_neg (by rw [showAce_colons a h.2.2]; decide), parseAce_showAce a h]
  rfl

theorem parseAceP_WF {s : Str} {p : Option Str} {a : Ace} (h : parseAceP s = .ok (p, a)) : a.WF := by
  unfold parseAceP at h
  split at h
  · obtain ⟨b, hb, he⟩ := except_map_ok h
    exact (Prod.mk.inj he).2 ▸ parseAce_WF _ _ hb
  · obtain ⟨b, hb, he⟩ := except_map_ok h
    exact (Prod.mk.inj he).2 ▸ parseAce_WF _ _ hb

theorem decodeUtf8_utf8 (s : Str) : decodeUtf8 (utf8 s) = some s := by
  have h : (s.utf8Encode).data = (utf8 s).toArray := by
    simp only [List.utf8Encode, utf8, List.data_toByteArray]
  unfold decodeUtf8
  rw [← h]
  have hv : (s.utf8Encode).IsValidUTF8 := ByteArray.isValidUTF8_utf8Encode
  unfold String.fromUTF8?
  rw [dif_pos hv]
  have he : String.fromUTF8 s.utf8Encode hv = String.ofList s := by
    apply String.toByteArray_inj.mp
    rw [String.toByteArray_ofList]
    rfl
  rw [Option.map_some, he, String.toList_ofList]

end Pna.Cli
