import PnaVerif.Lemmas.Multipart
import PnaVerif.Lemmas.Grouping
import PnaVerif.Model.Cli.Concat
/-!
  `pna concat`'s walk along the ANXT chain (`Cli.rawAcross`), for property C13 (raw copy).  What `raw_entries()` hands
  out and what it keeps back is a matter of `groupItems` alone (`groupItems_partition_proj`, `openTail` / `closedPart`,
  `groupItems_carry_spec`: Lemmas/Grouping).

  The walk is taken one part file at a time (`rawAcross_partFile`); ONE archive holding any chunks is its one-part case
  (`rawAcross_archiveBytes`).  `Cli.concatItems` is then taken one input at a time (`concatItems_cons_ok` / `_error`).
-/
namespace Pna
open ChunkType

theorem rawAcross_nil (first : Bool) (pn : Nat) (carry : List Chunk) :
    Cli.rawAcross first pn carry [] = ([], .error .notFound) := by
  rw [Cli.rawAcross]

/-- One step of `run_across_archive` on a well-formed part file `i` of `n` (read as first part, or as the part that
    is due); it carries ANXT exactly when it is not the last of the `n`. -/
theorem rawAcross_partFile (i n : Nat) {body : List Chunk} (h : PartOk i body) (first : Bool) (pn : Nat)
    (hpn : first = true ∨ pn + 1 = i) (carry : List Chunk) (ps : List Bytes) :
    Cli.rawAcross first pn carry (encodePartFile i n body :: ps)
      = if i + 1 < n then
          ((groupItems carry false body).1 ++ (Cli.rawAcross false i (carryAfter carry body) ps).1,
            (Cli.rawAcross false i (carryAfter carry body) ps).2)
        else ((groupItems carry false body).1, .ok ()) := by
  rw [Cli.rawAcross]
  simp only [readArchiveWith_partFile i n h carry, chunksStream_partFile i n body h.fit h.clean]
  have hc : ¬ ((!first) = true ∧ pn + 1 ≠ i) := by
    rintro ⟨h1, h2⟩
    rcases hpn with h' | h'
    · rw [h'] at h1; cases h1
    · exact h2 h'
  rw [if_neg hc]
  by_cases hn : i + 1 < n
  · simp only [hn, decide_true, if_true]
  · simp only [hn, decide_false, Bool.false_eq_true, if_false]

/-- The complete chain, parts `k … n-1` of an `n`-part sequence: the raw items are those of one archive holding the
    concatenated bodies; files after the last part (`ps`) are never opened. -/
theorem rawAcross_complete (n : Nat) (ps : List Bytes) : ∀ (bs : List (List Chunk)) (k : Nat),
    bs ≠ [] → k + bs.length = n → PartsOk k bs →
    ∀ (first : Bool) (pn : Nat) (carry : List Chunk), (first = true ∨ pn + 1 = k) →
      Cli.rawAcross first pn carry (partsFrom k n bs ++ ps) = ((groupItems carry false bs.flatten).1, .ok ()) := by
  intro bs
  induction bs with
  | nil => intro k h; exact absurd rfl h
  | cons b bs ih =>
    intro k _ hk h first pn carry hpn
    obtain ⟨hb, hbs⟩ := h.cons
    rw [List.length_cons] at hk
    rw [partsFrom_cons, List.cons_append, rawAcross_partFile k n hb first pn hpn]
    cases bs with
    | nil =>
      rw [if_neg (by simp at hk; omega)]
      simp
    | cons b2 bs2 =>
      rw [if_pos (by simp at hk; omega), ih (k + 1) (by simp) (by simp at hk ⊢; omega) hbs false k _ (Or.inr rfl),
        List.flatten_cons (l := b), groupItems_append_clean _ b _ hb.clean]

/-- A chain that breaks off: the last part present carries ANXT, the next part is not there. -/
theorem rawAcross_missing (n : Nat) : ∀ (bs : List (List Chunk)) (k : Nat), k + bs.length < n → PartsOk k bs →
    ∀ (first : Bool) (pn : Nat) (carry : List Chunk), (first = true ∨ pn + 1 = k) →
      Cli.rawAcross first pn carry (partsFrom k n bs)
        = ((groupItems carry false bs.flatten).1, .error .notFound) := by
  intro bs
  induction bs with
  | nil => intro k _ _ first pn carry _; rw [partsFrom_nil, rawAcross_nil]; rfl
  | cons b bs ih =>
    intro k hk h first pn carry hpn
    obtain ⟨hb, hbs⟩ := h.cons
    rw [List.length_cons] at hk
    rw [partsFrom_cons, rawAcross_partFile k n hb first pn hpn, if_pos (by omega),
      ih (k + 1) (by omega) hbs false k _ (Or.inr rfl), List.flatten_cons, groupItems_append_clean _ b _ hb.clean]

theorem encodeArchive_eq_archiveBytes (n : Nat) (items : List (List Chunk)) :
    encodeArchive n items false = archiveBytes n items.flatten := by
  simp [encodeArchive, archiveBytes]

theorem writeRaw_archiveBytes (items : List (List Chunk)) : Cli.writeRaw items = archiveBytes 0 items.flatten := by
  simp [Cli.writeRaw, archiveBytes, encodeChunks, List.flatMap_append, List.append_assoc]

/-- ONE archive that holds any chunks but ANXT/AEND is a part file that is the last of its sequence. -/
theorem rawAcross_archiveBytes (n : Nat) (hn : n < 2 ^ 32) (body : List Chunk) (hfit : ChunksFit body)
    (hno : NoPartMarkers body) (ps : List Bytes) :
    Cli.rawAcross true 0 [] (archiveBytes n body :: ps) = ((groupItems [] false body).1, .ok ()) := by
  have h := rawAcross_partFile n 0 ⟨hn, hfit, hno⟩ true 0 (Or.inl rfl) [] ps
  rwa [encodePartFile_archiveBytes, if_neg (Nat.not_lt_zero _), decide_eq_false (Nat.not_lt_zero _), anxtIf,
    if_neg Bool.false_ne_true, List.append_nil] at h

/-- one input that is an unsplit archive: its items, and the walk stops there (no ANXT) -/
theorem rawAcross_single (n : Nat) (hn : n < 2 ^ 32) (items : List (List Chunk)) (hw : ∀ it ∈ items, ItemWF it)
    (hfit : ChunksFit items.flatten) (ps : List Bytes) :
    Cli.rawAcross true 0 [] (encodeArchive n items false :: ps) = (items, .ok ()) := by
  rw [encodeArchive_eq_archiveBytes, rawAcross_archiveBytes n hn _ hfit
    (items_clean hw), groupItems_flatten_items items hw]

theorem concatItems_cons_ok (inp : List Bytes) (rest : List (List Bytes)) (is js : List (List Chunk)) (u : Unit)
    (h : Cli.rawAcross true 0 [] inp = (is, .ok u)) (hr : Cli.concatItems rest = .ok js) :
    Cli.concatItems (inp :: rest) = .ok (is ++ js) := by
  rw [Cli.concatItems, h, hr]

theorem concatItems_cons_error (inp : List Bytes) (rest : List (List Bytes)) (is : List (List Chunk)) (e : Err)
    (h : Cli.rawAcross true 0 [] inp = (is, .error e)) : Cli.concatItems (inp :: rest) = .error e := by
  rw [Cli.concatItems, h]

/-- `pna concat` of ONE archive holding any chunks (no AEND/ANXT among them): the grouped items -/
theorem concat_archiveBytes (n : Nat) (hn : n < 2 ^ 32) (body : List Chunk) (hfit : ChunksFit body)
    (hno : NoPartMarkers body) :
    Cli.concat [[archiveBytes n body]] = .ok (Cli.writeRaw (groupItems [] false body).1) := by
  unfold Cli.concat
  rw [Cli.concatItems, rawAcross_archiveBytes n hn body hfit hno []]
  simp [Cli.concatItems]

end Pna
