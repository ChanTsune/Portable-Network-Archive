import PnaVerif.Model.Archive
import PnaVerif.Lemmas.Chunk
import PnaVerif.Lemmas.Codec
import PnaVerif.Lemmas.SerShape
import PnaVerif.Lemmas.Grouping
/-!
  Archive round trip at chunk level (lib/src/archive/read.rs against the writer's chunk order); the entry level,
  which needs the parsers, is in `Lemmas/EntryRt.lean`.

  The chunk iterator is compositional: over well-framed chunks without AEND it returns them and goes on with what
  follows (`chunksStream_append`), and it stops at the first chunk that does not parse.  Hence a written file
  tokenises to its chunks up to and including AEND, and one cut anywhere to the complete chunks before the cut and
  then `UnexpectedEof` (`chunksStream_cut`; by position: `C06A.prefix_chunks`).  `groupItems` is compositional in the
  same way (`groupItems_append_proj`; what the reader does with the tokens, and the predicates `ItemWF`, `NoMarkers`,
  `NoPartMarkers`, are in `Lemmas/Grouping.lean`).  `readArchiveWith_nil` / `readArchiveWith_cons` say what the reader
  does once the tokeniser has answered; the proofs about written files rewrite with them and do not unfold the reader.
  `archiveBytes` (signature, AHED, any chunks, AEND) is the ONE archive builder, read back with any carry buffer by
  `readArchiveWith_archiveBytes`; `encodeArchive` (here) and `encodePartFile`, `Cli.writeRaw`, `C04M.concatArchive`
  (elsewhere) are instances.  Every `chunksStream` statement transfers to the slice reader by
  `chunksSlice_eq_chunksStream` (Lemmas/Chunk.lean).
-/
namespace Pna
open ChunkType

def encodeChunks (cs : List Chunk) : Bytes := cs.flatMap Chunk.encode

/-- every chunk fits the 32-bit length field -/
def ChunksFit (cs : List Chunk) : Prop := ∀ c ∈ cs, c.data.length < 2 ^ 32

/-- a written archive, or part `n` of one (`next`: another part follows) -/
def encodeArchive (n : Nat) (items : List (List Chunk)) (next : Bool) : Bytes :=
  signature ++ encodeChunks ([⟨ChunkType.AHED, encAHED ⟨0, 0, n⟩⟩] ++ items.flatten
    ++ (if next then [⟨ChunkType.ANXT, []⟩] else []) ++ [⟨ChunkType.AEND, []⟩])

/-- `body`: chunks of any types (items, pieces of items, ANXT) -/
def archiveBytes (n : Nat) (body : List Chunk) : Bytes :=
  signature ++ encodeChunks ([⟨ChunkType.AHED, encAHED ⟨0, 0, n⟩⟩] ++ body ++ [⟨ChunkType.AEND, []⟩])

theorem ChunksFit.left {a b : List Chunk} (h : ChunksFit (a ++ b)) : ChunksFit a :=
  (List.forall_mem_append.mp h).1

theorem ChunksFit.right {a b : List Chunk} (h : ChunksFit (a ++ b)) : ChunksFit b :=
  (List.forall_mem_append.mp h).2

theorem encodeChunks_nil : encodeChunks [] = [] := rfl

theorem encodeChunks_cons (c : Chunk) (cs : List Chunk) :
    encodeChunks (c :: cs) = c.encode ++ encodeChunks cs := by
  simp [encodeChunks]

theorem encodeChunks_append (a b : List Chunk) :
    encodeChunks (a ++ b) = encodeChunks a ++ encodeChunks b := by
  simp [encodeChunks]

theorem encodeChunks_singleton (c : Chunk) : encodeChunks [c] = c.encode := by
  simp [encodeChunks]

/-- Any fuel above the number of bytes will do: each accepted chunk shortens the input (`decodeStream_rest_le`). -/
theorem chunkIter_fuel (f g : Nat) (bs : Bytes) (hf : bs.length < f) (hg : bs.length < g) :
    chunkIter decodeStream f bs = chunkIter decodeStream g bs := by
  induction f generalizing g bs with
  | zero => omega
  | succ f ih =>
    obtain ⟨g, rfl⟩ : ∃ g', g = g' + 1 := ⟨g - 1, by omega⟩
    unfold chunkIter
    cases hd : decodeStream bs with
    | ok p =>
      have := decodeStream_rest_le bs p.1 p.2 hd
      simp only [ih g p.2 (by omega) (by omega)]
    | _ => rfl

theorem chunksStream_append (pre : List Chunk) (tail : Bytes) (hfit : ChunksFit pre)
    (hno : ∀ c ∈ pre, c.ty ≠ ChunkType.AEND) :
    chunksStream (signature ++ (encodeChunks pre ++ tail))
      = (pre ++ (chunksStream (signature ++ tail)).1, (chunksStream (signature ++ tail)).2) := by
  induction pre with
  | nil => simp [encodeChunks_nil]
  | cons d pre ih =>
    have ih := ih (fun c hc => hfit c (by simp [hc])) (fun c hc => hno c (by simp [hc]))
    simp only [chunksStream, readSigStream_sig] at ih ⊢
    rw [encodeChunks_cons, List.append_assoc, chunkIter, decodeStream_encode _ _ (hfit d (by simp))]
    simp only
    rw [if_neg (hno d (by simp)),
      chunkIter_fuel _ _ _ (by simp [Chunk.encode_length]; omega) (Nat.lt_succ_self _), ih]
    rfl

theorem chunksStream_error (bs : Bytes) (e : Err) (h : decodeStream bs = .error e) :
    chunksStream (signature ++ bs) = ([], .error e) := by
  rw [chunksStream, readSigStream_sig]
  simp only
  rw [chunkIter, h]

theorem chunksStream_encode (cs : List Chunk) (junk : Bytes) (hfit : ChunksFit cs) (hno : ∀ c ∈ cs, c.ty ≠ ChunkType.AEND) :
    chunksStream (signature ++ encodeChunks cs ++ (Chunk.mk ChunkType.AEND []).encode ++ junk)
      = (cs ++ [⟨ChunkType.AEND, []⟩], .ok ()) := by
  simp only [List.append_assoc]
  rw [chunksStream_append cs _ hfit hno, chunksStream, readSigStream_sig]
  simp only
  rw [chunkIter, decodeStream_encode _ _ (by simp)]
  rfl

/-- Interrupted write (C06) at chunk level: the cut falls inside the chunk `c` or exactly before it.  `c` may be AEND
    itself; what was to follow (`post`, `rest`) does not matter. -/
theorem chunksStream_cut (pre : List Chunk) (c : Chunk) (post : List Chunk) (rest : Bytes) (hfit : ChunksFit pre)
    (hc : c.data.length < 2 ^ 32) (hno : ∀ c ∈ pre, c.ty ≠ ChunkType.AEND) (k : Nat)
    (hk1 : (signature ++ encodeChunks pre).length ≤ k)
    (hk2 : k < (signature ++ encodeChunks pre).length + c.encode.length) :
    chunksStream ((signature ++ encodeChunks (pre ++ c :: post) ++ rest).take k) = (pre, .error .eof) := by
  have e : signature ++ encodeChunks (pre ++ c :: post) ++ rest
      = (signature ++ encodeChunks pre) ++ (c.encode ++ (encodeChunks post ++ rest)) := by
    rw [encodeChunks_append, encodeChunks_cons]
    simp [List.append_assoc]
  rw [e, List.take_append, List.take_of_length_le hk1, List.append_assoc, chunksStream_append pre _ hfit hno,
    chunksStream_error _ _ (decodeStream_prefix_eof c _ _ hc (by omega))]
  simp

theorem chunksStream_prefix_sig (bs : Bytes) (k : Nat) (hk : k < 8) : chunksStream ((signature ++ bs).take k) = ([], .error .eof) := by
  unfold chunksStream
  rw [readSigStream_take_short _ k hk]

theorem chunksStream_head (bs : Bytes) (c : Chunk)
    (h : (chunksStream (signature ++ bs)).1.head? = some c) : ∃ r, decodeStream bs = .ok (c, r) := by
  rw [chunksStream, readSigStream_sig] at h
  simp only [chunkIter] at h
  split at h <;> try cases h
  rename_i d r hd
  split at h <;> cases h <;> exact ⟨r, hd⟩

theorem chunksStream_archiveBytes (n : Nat) (body : List Chunk) (hfit : ChunksFit body)
    (hno : ∀ c ∈ body, c.ty ≠ ChunkType.AEND) :
    chunksStream (archiveBytes n body)
      = (⟨ChunkType.AHED, encAHED ⟨0, 0, n⟩⟩ :: (body ++ [⟨ChunkType.AEND, []⟩]), .ok ()) := by
  have h := chunksStream_encode (⟨ChunkType.AHED, encAHED ⟨0, 0, n⟩⟩ :: body) [] ?_ ?_
  · rw [archiveBytes, List.singleton_append, ← List.cons_append, encodeChunks_append, encodeChunks_singleton,
      ← List.append_assoc, ← List.append_nil (_ ++ Chunk.encode _), h]
  · exact List.forall_mem_cons.mpr ⟨by simp [encAHED_length], hfit⟩
  · exact List.forall_mem_cons.mpr ⟨(by decide : AHED ≠ AEND), hno⟩

/-- 28 bytes of signature and AHED, the chunks, the 12 bytes of AEND -/
theorem archiveBytes_split (n : Nat) (body : List Chunk) :
    archiveBytes n body = (signature ++ (Chunk.mk AHED (encAHED ⟨0, 0, n⟩)).encode)
      ++ (encodeChunks body ++ (Chunk.mk AEND []).encode) := by
  simp only [archiveBytes, encodeChunks_append, encodeChunks_singleton, List.append_assoc]

theorem archiveBytes_length_chunks (n : Nat) (body : List Chunk) :
    (archiveBytes n body).length = 28 + (encodeChunks body).length + 12 := by
  rw [archiveBytes_split, List.length_append, List.length_append, List.length_append, AHED_encode_length,
    Chunk.encode_length]
  rfl

theorem chunk_at_offset (all : List Chunk) (k : Nat) (hk : k < (encodeChunks all).length) :
    ∃ pre c post, all = pre ++ c :: post ∧
      (encodeChunks pre).length ≤ k ∧ k < (encodeChunks pre).length + c.encode.length := by
  induction all generalizing k with
  | nil => simp [encodeChunks_nil] at hk
  | cons d all ih =>
    rw [encodeChunks_cons, List.length_append] at hk
    by_cases h : k < d.encode.length
    · exact ⟨[], d, all, rfl, Nat.zero_le _, by simpa [encodeChunks_nil] using h⟩
    · obtain ⟨pre, c, post, rfl, h1, h2⟩ := ih (k - d.encode.length) (by omega)
      refine ⟨d :: pre, c, post, rfl, ?_, ?_⟩
      · rw [encodeChunks_cons, List.length_append]
        omega
      · rw [encodeChunks_cons, List.length_append]
        omega

/-- C06 for every file `archiveBytes` builds: cut anywhere, AEND is never among its tokens -/
theorem chunksStream_archiveBytes_cut (n : Nat) (body : List Chunk) (hfit : ChunksFit body)
    (hno : ∀ c ∈ body, c.ty ≠ ChunkType.AEND) (k : Nat) (hk : k < (archiveBytes n body).length) :
    ∃ toks, toks <+: ⟨ChunkType.AHED, encAHED ⟨0, 0, n⟩⟩ :: body ∧
      chunksStream ((archiveBytes n body).take k) = (toks, .error .eof) := by
  unfold archiveBytes at hk ⊢
  rw [List.singleton_append] at hk ⊢
  by_cases h8 : k < 8
  · exact ⟨[], List.nil_prefix, chunksStream_prefix_sig _ k h8⟩
  · rw [List.length_append, signature_length] at hk
    obtain ⟨pre, c, post, hall, h1, h2⟩ :=
      chunk_at_offset _ (k - 8) (Nat.sub_lt_left_of_lt_add (Nat.le_of_not_lt h8) hk)
    have hfitA : ChunksFit (⟨ChunkType.AHED, encAHED ⟨0, 0, n⟩⟩ :: body ++ [⟨ChunkType.AEND, []⟩]) :=
      List.forall_mem_append.mpr ⟨List.forall_mem_cons.mpr ⟨by simp [encAHED_length], hfit⟩, by decide⟩
    -- the chunks before the cut are chunks before AEND
    have hp : pre <+: ⟨ChunkType.AHED, encAHED ⟨0, 0, n⟩⟩ :: body :=
      List.prefix_of_prefix_length_le ⟨_, hall.symm⟩ (List.prefix_append _ _) (by
        have := congrArg List.length hall
        simp only [List.length_append, List.length_cons, List.length_nil] at this ⊢
        omega)
    refine ⟨pre, hp, ?_⟩
    rw [hall] at hfitA ⊢
    rw [← List.append_nil (signature ++ _)]  -- the `++ rest` of `chunksStream_cut`, with `rest := []`
    refine chunksStream_cut pre c post [] hfitA.left (hfitA c (by simp)) (fun d hd => ?_) k ?_ ?_
    · rcases List.mem_cons.mp (hp.subset hd) with rfl | hd
      · exact (by decide : ChunkType.AHED ≠ ChunkType.AEND)
      · exact hno d hd
    · rw [List.length_append, signature_length]
      omega
    · rw [List.length_append, signature_length]
      omega

theorem readArchiveWith_nil (chunks : Bytes → List Chunk × Outcome Unit) (carry : List Chunk) (b : Bytes) (e : Err)
    (t : chunks b = ([], .error e)) : readArchiveWith chunks carry b = { status := .error e } := by
  unfold readArchiveWith
  rw [t]

/-- what the reader does once the tokeniser has answered with the chunks `hd :: xs` and the end `st` -/
theorem readArchiveWith_cons (chunks : Bytes → List Chunk × Outcome Unit) (carry : List Chunk) (b : Bytes)
    (hd : Chunk) (xs : List Chunk) (st : Outcome Unit) (t : chunks b = (hd :: xs, st)) :
    readArchiveWith chunks carry b =
      if hd.ty ≠ ChunkType.AHED then { status := .error .invalidData }
      else match decAHED hd.data with
        | .error e => { status := .error e }
        | .panic s => { status := .panic s }
        | .ok hh =>
          { header := some hh, rawItems := (groupItems carry false xs).1,
            entries := (parseItems (groupItems carry false xs).1).1,
            status := (match (parseItems (groupItems carry false xs).1).2 with | .ok _ => st | o => o),
            carry := (groupItems carry false xs).2.1, next := (groupItems carry false xs).2.2.1 } := by
  unfold readArchiveWith
  rw [t]
  rfl

/-- … with the header chunk every writer writes; a parse error takes precedence over the tokeniser's end `st` -/
theorem readArchiveWith_tokens (chunks : Bytes → List Chunk × Outcome Unit) (carry : List Chunk) (bs : Bytes)
    {n : Nat} (hn : n < 2 ^ 32) {xs : List Chunk} {st : Outcome Unit}
    (t : chunks bs = (⟨ChunkType.AHED, encAHED ⟨0, 0, n⟩⟩ :: xs, st)) :
    readArchiveWith chunks carry bs
      = { header := some ⟨0, 0, n⟩, rawItems := (groupItems carry false xs).1,
          entries := (parseItems (groupItems carry false xs).1).1,
          status := (match (parseItems (groupItems carry false xs).1).2 with | .ok _ => st | o => o),
          carry := (groupItems carry false xs).2.1, next := (groupItems carry false xs).2.2.1 } := by
  rw [readArchiveWith_cons chunks carry bs _ xs st t, if_neg (by simp),
    decAHED_encAHED ⟨0, 0, n⟩ (by decide : (0 : Nat) < 256) (by decide : (0 : Nat) < 256) hn]

/-- Every archive and part file the writers produce is of this form (`encodeArchive_archiveBytes`,
    `encodePartFile_archiveBytes`). -/
theorem readArchiveWith_archiveBytes (n : Nat) (hn : n < 2 ^ 32) (body : List Chunk) (hfit : ChunksFit body)
    (hno : ∀ c ∈ body, c.ty ≠ ChunkType.AEND) (carry : List Chunk) :
    readArchiveWith chunksStream carry (archiveBytes n body)
      = { header := some ⟨0, 0, n⟩, rawItems := (groupItems carry false body).1,
          entries := (parseItems (groupItems carry false body).1).1,
          status := (parseItems (groupItems carry false body).1).2,
          carry := (groupItems carry false body).2.1, next := (groupItems carry false body).2.2.1 } := by
  rw [readArchiveWith_tokens _ _ _ hn (chunksStream_archiveBytes n body hfit hno),
    groupItems_upto_aend body _ [] hno rfl]
  rcases parseItems (groupItems carry false body).1 with ⟨es, _ | _ | _⟩ <;> rfl

theorem anxtIf_fit {body : List Chunk} (hfit : ChunksFit body) (b : Bool) : ChunksFit (body ++ anxtIf b) :=
  List.forall_mem_append.mpr ⟨hfit, by cases b <;> decide⟩

theorem encodeArchive_archiveBytes (n : Nat) (items : List (List Chunk)) (next : Bool) :
    encodeArchive n items next = archiveBytes n (items.flatten ++ anxtIf next) := by
  simp only [encodeArchive, archiveBytes, anxtIf, List.append_assoc]

/-- the chunks of a written archive part (what `encodeArchive` frames after the signature); in the namespace of
    the layout theorems of `Props/C14Layout.lean`, which state the end of an archive over it -/
def C14L.archiveChunks (n : Nat) (items : List (List Chunk)) (next : Bool) : List Chunk :=
  [⟨AHED, encAHED ⟨0, 0, n⟩⟩] ++ items.flatten ++ (if next then [⟨ANXT, []⟩] else []) ++ [⟨AEND, []⟩]

theorem encodeArchive_eq (n : Nat) (items : List (List Chunk)) (next : Bool) :
    encodeArchive n items next = signature ++ encodeChunks (C14L.archiveChunks n items next) := rfl

theorem chunksStream_encodeArchive (n : Nat) (items : List (List Chunk)) (hw : ∀ it ∈ items, ItemWF it)
    (hfit : ChunksFit items.flatten) (next : Bool) :
    chunksStream (encodeArchive n items next)
      = (⟨ChunkType.AHED, encAHED ⟨0, 0, n⟩⟩ ::
          (items.flatten ++ (if next then [⟨ChunkType.ANXT, []⟩] else []) ++ [⟨ChunkType.AEND, []⟩]), .ok ()) := by
  rw [encodeArchive_archiveBytes, chunksStream_archiveBytes n _ (anxtIf_fit hfit next)
    (anxtIf_noAEND (items_clean hw).noAEND next)]
  rfl

theorem readArchiveWith_encodeArchive (n : Nat) (hn : n < 2 ^ 32) (items : List (List Chunk))
    (hw : ∀ it ∈ items, ItemWF it) (hfit : ChunksFit items.flatten) (next : Bool) :
    readArchiveWith chunksStream [] (encodeArchive n items next)
      = { header := some ⟨0, 0, n⟩, rawItems := items, entries := (parseItems items).1,
          status := (parseItems items).2, carry := [], next := next } := by
  rw [encodeArchive_archiveBytes, readArchiveWith_archiveBytes n hn _ (anxtIf_fit hfit next)
      (anxtIf_noAEND (items_clean hw).noAEND next),
    groupItems_anxtIf _ (items_clean hw).noANXT (items_clean hw).noAEND, groupItems_flatten_items items hw]

/-- raw copy of a written archive; second half: `C14.raw_copy_is_identity` -/
theorem raw_copy_exact (n : Nat) (hn : n < 2 ^ 32) (items : List (List Chunk)) (hw : ∀ it ∈ items, ItemWF it)
    (hfit : ChunksFit items.flatten) :
    (rawEntriesWith chunksStream (encodeArchive n items false)).1 = items ∧
    encodeArchive n (rawEntriesWith chunksStream (encodeArchive n items false)).1 false = encodeArchive n items false := by
  have h : (rawEntriesWith chunksStream (encodeArchive n items false)).1 = items := by
    unfold rawEntriesWith
    rw [readArchiveWith_encodeArchive n hn items hw hfit false]
  exact ⟨h, by rw [h]⟩

/-- `NoMarkers e.extra` is needed (head comment of `Lemmas/Grouping.lean`); well-formedness of the entry plays no
    part -/
theorem serN_ItemWF (e : NormalEntry) (hx : NoMarkers e.extra) : ItemWF (serN e) :=
  ⟨_, ⟨FEND, []⟩, serN_eq_mid e, Or.inl rfl,
    serNBody_forall_ty (fun t => t ≠ FEND ∧ t ≠ SEND ∧ t ≠ ANXT ∧ t ≠ AEND) e hx (by decide)⟩

theorem serS_ItemWF (s : SolidEntry) (hx : NoMarkers s.extra) : ItemWF (serS s) :=
  ⟨_, ⟨SEND, []⟩, serS_eq_mid s, Or.inr rfl,
    serSBody_forall_ty (fun t => t ≠ FEND ∧ t ≠ SEND ∧ t ≠ ANXT ∧ t ≠ AEND) s hx (by decide)⟩

instance (cs : List Chunk) : Decidable (ChunksFit cs) := by
  unfold ChunksFit
  infer_instance

end Pna
