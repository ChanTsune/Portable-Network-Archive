import PnaVerif.Lemmas.EntryRt
import PnaVerif.Lemmas.Recut
import PnaVerif.Lemmas.Split
import PnaVerif.Lemmas.StreamView
import PnaVerif.Lemmas.Grouping
/-!
  Split, then read: what `Props/C04Read.lean` and `Props/C01Multipart.lean` need beyond `writeSplit_spec` and
  Lemmas/Recut.  `Unmixed` looks only at the chunk TYPES of an item, which lists with equal `streamView`s share
  (`mem_ty_of_svEq`), so it is needed of one side only; of a serialised entry it is a condition on the `extra` chunks
  (`ExtraUnmixed`).
  `split_groups`: grouping the bodies of a split gives the original items up to cutting.
-/
namespace Pna
open ChunkType

theorem Unmixed_of_svEq {a b : List Chunk} (h : streamView a = streamView b) (ha : Unmixed a) : Unmixed b := by
  intro c0 hc0
  have hh : a.head?.map (·.ty) = some c0.ty := by
    rw [← streamView_head_ty a, h, streamView_head_ty b, hc0]
    rfl
  refine ⟨fun hf c hc hs => ?_, fun hf c hc hs => ?_⟩
  · obtain ⟨x, hx, hxt⟩ := (mem_ty_of_svEq h SDAT).mpr ⟨c, hc, hs⟩
    exact ha.normal (hf ▸ hh) x hx hxt
  · obtain ⟨x, hx, hxt⟩ := (mem_ty_of_svEq h FDAT).mpr ⟨c, hc, hs⟩
    exact ha.solid (hf ▸ hh) x hx hxt

theorem All2_unmixed {l m : List (List Chunk)} (h : All2 SvEq l m) (hm : ∀ it ∈ m, Unmixed it) :
    ∀ it ∈ l, Unmixed it := by
  induction h with
  | nil => intro it hit; cases hit
  | @cons a b as bs hab _ ih =>
    intro it hit
    rcases List.mem_cons.mp hit with rfl | hit
    · exact Unmixed_of_svEq (SvEq.symm hab) (hm b (by simp))
    · exact ih (fun x hx => hm x (by simp [hx])) it hit

theorem All2_flatten_svEq {l m : List (List Chunk)} (h : All2 SvEq l m) :
    streamView l.flatten = streamView m.flatten := by
  induction h with
  | nil => rfl
  | cons hab _ ih =>
    rw [List.flatten_cons, List.flatten_cons]
    exact SvEq.append hab ih

theorem split_groups (entries : List (List Chunk)) (maxFile : Nat) (bodies : List (List Chunk))
    (h : writeSplit entries maxFile = .ok bodies) (hw : ∀ e ∈ entries, ItemWF e) :
    All2 SvEq (groupItems [] false bodies.flatten).1 entries ∧ (groupItems [] false bodies.flatten).2.1 = [] := by
  have hs := (writeSplit_ok_spec h).cut.1
  obtain ⟨g1, g2, _, _⟩ := groupItems_recut [] [] false bodies.flatten entries.flatten rfl hs
  rw [groupItems_flatten_items entries hw] at g1 g2
  exact ⟨g1, streamView_eq_nil g2⟩

/-- `NormalEntry.WF` does not give `hx`: `interpretedN SDAT = false`, so `extra` may hold SDAT chunks -/
theorem serN_unmixed (e : NormalEntry) (hx : ∀ c ∈ e.extra, c.ty ≠ SDAT) : Unmixed (serN e) := by
  intro c0 hc0
  rw [serN_eq_mid] at hc0
  cases hc0
  exact ⟨fun _ => serN_forall_ty (· ≠ SDAT) e hx (by decide), fun h => by cases h⟩

theorem serS_unmixed (s : SolidEntry) (hx : ∀ c ∈ s.extra, c.ty ≠ FDAT) : Unmixed (serS s) := by
  intro c0 hc0
  rw [serS_eq_mid] at hc0
  cases hc0
  exact ⟨fun h => (by cases h), fun _ => serS_forall_ty (· ≠ FDAT) s hx (by decide)⟩

/-- `Unmixed` of a serialised entry, in terms of the entry (`serEntry_unmixed_iff`).  Without it a split archive need
    not read back as written: `C01M.roundtrip_needs_extra_unmixed`. -/
def ReadEntry.ExtraUnmixed : ReadEntry → Prop
  | .normal e => ∀ c ∈ e.extra, c.ty ≠ SDAT
  | .solid s => ∀ c ∈ s.extra, c.ty ≠ FDAT

theorem serEntry_unmixed (e : ReadEntry) (h : e.ExtraUnmixed) : Unmixed (serEntry e) := by
  cases e with
  | normal e => exact serN_unmixed e h
  | solid s => exact serS_unmixed s h

theorem serEntry_unmixed_iff (e : ReadEntry) : Unmixed (serEntry e) ↔ e.ExtraUnmixed := by
  refine ⟨fun h => ?_, serEntry_unmixed e⟩
  cases e with
  | normal e =>
    intro c hc
    refine (h _ (serN_head e)).1 rfl c ?_
    simp only [serEntry, serN, List.mem_append, hc, or_true, true_or]
  | solid s =>
    intro c hc
    refine (h _ (serS_head s)).2 rfl c ?_
    simp only [serEntry, serS, List.mem_append, hc, or_true, true_or]

theorem SameE_recut (e : ReadEntry) : SameE e.recut e := by
  cases e with
  | normal e => exact recut_meaning e
  | solid s => exact SameS.refl s

theorem All2_recut (es : List ReadEntry) : All2 SameE es (es.map ReadEntry.recut) := by
  induction es with
  | nil => exact .nil
  | cons e es ih => exact .cons (SameE_recut e).symm ih

end Pna
