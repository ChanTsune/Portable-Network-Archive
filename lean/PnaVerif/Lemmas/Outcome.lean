import PnaVerif.Model.Bytes
/-!
  `Outcome.Sat`: one statement for the three ways a modelled function can end.  A specification
  `(f x).Sat P Q` says what holds of the value on success (`P`), what an error means (`Q`), and that there is no
  panic; the success, error and no-panic corollaries are then read off with `of_ok`, `of_error`, `no_panic`,
  `exists_ok`.
  Below it, the facts about `Outcome` alone that single-outcome proofs use: inversion of `>>=` and of a guard
  that answered `ok`, and `isPanic = false` through `>>=`, `if`, `map'` and the model's `match`.
  Last, `OutcomeRel R`: two outcomes end the same way, with `R`-related values if ok (`OptRel R` likewise for options).
-/
namespace Pna

def Outcome.Sat {α : Type} (o : Outcome α) (P : α → Prop) (Q : Err → Prop) : Prop :=
  match o with
  | .ok a => P a
  | .error e => Q e
  | .panic _ => False

namespace Outcome.Sat
variable {α : Type} {o : Outcome α} {P : α → Prop} {Q : Err → Prop}

theorem of_ok (h : o.Sat P Q) {a : α} (e : o = .ok a) : P a := by
  rw [e] at h
  exact h

theorem of_error (h : o.Sat P Q) {e : Err} (he : o = .error e) : Q e := by
  rw [he] at h
  exact h

theorem no_panic (h : o.Sat P Q) (s : String) : o ≠ .panic s := by
  intro e
  rw [e] at h
  exact h

theorem exists_ok (h : o.Sat P Q) (hq : ∀ e, ¬ Q e) : ∃ a, o = .ok a ∧ P a := by
  cases o with
  | ok a => exact ⟨a, rfl, h⟩
  | error e => exact absurd h (hq e)
  | panic s => exact h.elim

end Outcome.Sat

theorem Outcome.bind_eq_ok {α β} {x : Outcome α} {f : α → Outcome β} {b : β}
    (h : (x >>= f) = .ok b) : ∃ a, x = .ok a ∧ f a = .ok b := by
  cases x with
  | ok a => exact ⟨a, rfl, h⟩
  | _ => cases h

theorem bind_some_eq {α β} {x : Outcome β} {g : β → α} {a : α}
    (h : (do let v ← x; Outcome.ok (some (g v))) = .ok (some a)) : ∃ v, x = .ok v ∧ a = g v := by
  obtain ⟨v, hv, h⟩ := Outcome.bind_eq_ok h
  cases h
  exact ⟨v, hv, rfl⟩

theorem guard_eq_ok {α} {c : Prop} [Decidable c] {e : Err} {x : Outcome α} {v : α} :
    (if c then .error e else x) = .ok v ↔ ¬ c ∧ x = .ok v := by
  split <;> simp [*]

theorem bind_no_panic {α β} (x : Outcome α) (f : α → Outcome β)
    (hx : x.isPanic = false) (hf : ∀ a, (f a).isPanic = false) : (x >>= f).isPanic = false := by
  cases x with
  | ok a => exact hf a
  | error e => rfl
  | panic s => cases hx

/-- `bind_no_panic` for the `match` the model writes in place of `>>=`.  Stated at
    `Outcome Bytes` with the alternatives in the model's order, so that Lean reuses the model's
    matcher and the lemma unifies with the unfolded model (a stuck matcher is not unfolded). -/
theorem match_no_panic (x : Outcome Bytes) (f : Bytes → Outcome Bytes)
    (hx : x.isPanic = false) (hf : ∀ p, (f p).isPanic = false) :
    (match x with
      | .ok p => f p
      | .error e => .error e
      | .panic s => .panic s).isPanic = false := by
  cases x with
  | ok p => exact hf p
  | error e => rfl
  | panic s => exact hx

theorem ite_no_panic {α} (c : Prop) [Decidable c] (x y : Outcome α)
    (hx : x.isPanic = false) (hy : y.isPanic = false) : (if c then x else y).isPanic = false := by
  split <;> assumption

/-- one link of a guard chain `if bad₁ then error else if bad₂ then error else … ok` -/
theorem guard_no_panic {α} (c : Prop) [Decidable c] (e : Err) (x : Outcome α) (hx : x.isPanic = false) :
    (if c then .error e else x).isPanic = false :=
  ite_no_panic c _ _ rfl hx

theorem map'_no_panic {α β} (f : α → β) (x : Outcome α) (h : x.isPanic = false) :
    (x.map' f).isPanic = false := by
  cases x <;> first | rfl | cases h

theorem isPanic_eq_false_iff {α} {x : Outcome α} : x.isPanic = false ↔ ∀ s, x ≠ .panic s := by
  cases x with
  | ok a => exact ⟨fun _ _ => nofun, fun _ => rfl⟩
  | error e => exact ⟨fun _ _ => nofun, fun _ => rfl⟩
  | panic m => exact ⟨nofun, fun h => absurd rfl (h m)⟩

/-- refutes the `.panic s` alternative of a `match` on an outcome known not to panic -/
theorem ne_panic {α} {x : Outcome α} (h : x.isPanic = false) {s : String} (hs : x = .panic s) : False := by
  subst hs
  cases h

def OutcomeRel {α : Type} (R : α → α → Prop) : Outcome α → Outcome α → Prop
  | .ok a, .ok b => R a b
  | .error e, .error f => e = f
  | .panic _, .panic _ => True
  | _, _ => False

instance {α : Type} (R : α → α → Prop) [∀ a b, Decidable (R a b)] (x y : Outcome α) :
    Decidable (OutcomeRel R x y) := by
  cases x <;> cases y <;> simp only [OutcomeRel] <;> infer_instance

theorem OutcomeRel.refl {α : Type} {R : α → α → Prop} (hR : ∀ a, R a a) (x : Outcome α) :
    OutcomeRel R x x := by
  cases x with
  | ok a => exact hR a
  | error e => exact rfl
  | panic s => exact True.intro
theorem OutcomeRel.symm {α : Type} {R : α → α → Prop} (hR : ∀ a b, R a b → R b a) {x y : Outcome α}
    (h : OutcomeRel R x y) : OutcomeRel R y x := by
  cases x <;> cases y <;> simp only [OutcomeRel] at h ⊢
  · exact hR _ _ h
  · exact h.symm
theorem OutcomeRel.trans {α : Type} {R : α → α → Prop} (hR : ∀ a b c, R a b → R b c → R a c)
    {x y z : Outcome α} (h : OutcomeRel R x y) (g : OutcomeRel R y z) : OutcomeRel R x z := by
  cases x <;> cases y <;> cases z <;> simp only [OutcomeRel] at h g ⊢
  · exact hR _ _ _ h g
  · exact h.trans g
theorem OutcomeRel.of_eq {α : Type} {R : α → α → Prop} (hR : ∀ a, R a a) {x y : Outcome α}
    (h : x = y) : OutcomeRel R x y := h ▸ OutcomeRel.refl hR x
theorem OutcomeRel.mono {α : Type} {R S : α → α → Prop} (hRS : ∀ a b, R a b → S a b)
    {x y : Outcome α} (h : OutcomeRel R x y) : OutcomeRel S x y := by
  cases x <;> cases y <;> simp only [OutcomeRel] at h ⊢
  · exact hRS _ _ h
  · exact h

@[simp] theorem OutcomeRel_ok {α : Type} (R : α → α → Prop) (a b : α) :
    OutcomeRel R (.ok a) (.ok b) = R a b := rfl
@[simp] theorem OutcomeRel_error {α : Type} (R : α → α → Prop) (e f : Err) :
    OutcomeRel R (.error e) (.error f) = (e = f) := rfl
@[simp] theorem OutcomeRel_panic {α : Type} (R : α → α → Prop) (s t : String) :
    OutcomeRel R (.panic s) (.panic t) = True := rfl

theorem OutcomeRel.map {α β : Type} {R : α → α → Prop} {S : β → β → Prop} (f : α → β)
    (hf : ∀ a b, R a b → S (f a) (f b)) {x y : Outcome α} (h : OutcomeRel R x y) :
    OutcomeRel S (x.map' f) (y.map' f) := by
  cases x <;> cases y <;> simp only [OutcomeRel, Outcome.map'] at h ⊢
  · exact hf _ _ h
  · exact h

theorem OutcomeRel.cases {α : Type} {R : α → α → Prop} {x y : Outcome α} (h : OutcomeRel R x y) :
    (∃ a b, x = .ok a ∧ y = .ok b ∧ R a b) ∨ (∃ e, x = .error e ∧ y = .error e) ∨
      ∃ s t, x = .panic s ∧ y = .panic t := by
  cases x <;> cases y <;> simp only [OutcomeRel] at h
  · exact .inl ⟨_, _, rfl, rfl, h⟩
  · exact .inr (.inl ⟨_, rfl, h ▸ rfl⟩)
  · exact .inr (.inr ⟨_, _, rfl, rfl⟩)

theorem OutcomeRel.ite {α : Type} {R : α → α → Prop} {p : Prop} [Decidable p] {x x' y y' : Outcome α}
    (h : OutcomeRel R x x') (g : OutcomeRel R y y') :
    OutcomeRel R (if p then x else y) (if p then x' else y') := by
  split
  · exact h
  · exact g

def OptRel {α : Type} (R : α → α → Prop) : Option α → Option α → Prop
  | some a, some b => R a b
  | none, none => True
  | _, _ => False

end Pna
