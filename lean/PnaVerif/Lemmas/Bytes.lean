import PnaVerif.Model.Bytes
import PnaVerif.Lemmas.ListFacts
/-! Big-endian numbers: `beN k` and `fromBe` are inverse to each other on `k` bytes (`fromBe_beN`, `beN_fromBe`),
    with the bounds and special cases the codecs use; `splitAt?`. -/
namespace Pna

@[simp] theorem beN_length (k n : Nat) : (beN k n).length = k := by
  induction k generalizing n with
  | zero => rfl
  | succ k ih => simp [beN, ih]

theorem fromBe_append_single (bs : Bytes) (b : UInt8) :
    fromBe (bs ++ [b]) = fromBe bs * 256 + b.toNat := by
  simp [fromBe, List.foldl_append]

theorem fromBe_beN (k n : Nat) : fromBe (beN k n) = n % 256 ^ k := by
  induction k generalizing n with
  | zero => simp [beN, fromBe, Nat.mod_one]
  | succ k ih =>
    -- `n % (256 * 256 ^ k)` is the low byte plus 256 times the rest (`Nat.mod_mul`)
    rw [beN, fromBe_append_single, ih, UInt8.toNat_ofNat', Nat.mod_mod_of_dvd _ (by decide : 256 ∣ 2 ^ 8),
      Nat.pow_succ, Nat.mul_comm (256 ^ k), Nat.mod_mul]
    omega

theorem fromBe_lt (bs : Bytes) : fromBe bs < 256 ^ bs.length := by
  induction bs using bytes_rev_ind with
  | h0 => simp [fromBe]
  | h1 bs b ih =>
    rw [fromBe_append_single]
    have hb := b.toNat_lt
    simp [Nat.pow_succ]
    have : 0 < 256 ^ bs.length := Nat.pow_pos (by decide)
    omega

theorem beN_fromBe (bs : Bytes) : beN bs.length (fromBe bs) = bs := by
  induction bs using bytes_rev_ind with
  | h0 => rfl
  | h1 bs b ih =>
    have hb := b.toNat_lt
    simp only [List.length_append, List.length_singleton, beN, fromBe_append_single]
    have h1 : (fromBe bs * 256 + b.toNat) / 256 = fromBe bs := by omega
    have h2 : (fromBe bs * 256 + b.toNat) % 256 = b.toNat := by omega
    rw [h1, h2, ih, UInt8.ofNat_toNat]

theorem fromBe_be32 (n : Nat) : fromBe (be32 n) = n % 2 ^ 32 := by
  rw [be32, fromBe_beN]

theorem be32_fromBe (bs : Bytes) (h : bs.length = 4) : be32 (fromBe bs) = bs := by
  rw [be32, ← h, beN_fromBe]

@[simp] theorem be32_length (n : Nat) : (be32 n).length = 4 := beN_length 4 n

@[simp] theorem be64_length (n : Nat) : (be64 n).length = 8 := beN_length 8 n

@[simp] theorem be16_length (n : Nat) : (be16 n).length = 2 := beN_length 2 n

theorem fromBe_beN_lt (k n : Nat) (h : n < 256 ^ k) : fromBe (beN k n) = n := by
  rw [fromBe_beN, Nat.mod_eq_of_lt h]

theorem beN_inj (k a b : Nat) (ha : a < 256 ^ k) (hb : b < 256 ^ k) (h : beN k a = beN k b) : a = b := by
  rw [← fromBe_beN_lt k a ha, h, fromBe_beN_lt k b hb]

theorem fromBe_single (b : UInt8) : fromBe [b] = b.toNat := by simp [fromBe]

theorem fromBe_take_lt (k : Nat) (bs : Bytes) : fromBe (bs.take k) < 256 ^ k :=
  Nat.lt_of_lt_of_le (fromBe_lt _) (Nat.pow_le_pow_right (by decide) (List.length_take_le _ _))

theorem fromBe_be32_lt {n : Nat} (h : n < 2 ^ 32) : fromBe (be32 n) = n := by
  rw [fromBe_be32, Nat.mod_eq_of_lt h]

theorem splitAt?_append (a b : Bytes) : splitAt? (a ++ b) a.length = some (a, b) := by
  simp [splitAt?]

theorem splitAt?_some {bs : Bytes} {n : Nat} {x y : Bytes} (h : splitAt? bs n = some (x, y)) :
    bs = x ++ y ∧ x.length = n := by
  unfold splitAt? at h
  split at h
  · simp only [Option.some.injEq, Prod.mk.injEq] at h
    obtain ⟨rfl, rfl⟩ := h
    constructor
    · exact (List.take_append_drop n bs).symm
    · simp; omega
  · simp at h

end Pna
