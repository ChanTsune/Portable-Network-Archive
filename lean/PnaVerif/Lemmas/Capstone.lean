import PnaVerif.Model.Pipeline
import PnaVerif.Model.Archive
import PnaVerif.Model.Solid
import PnaVerif.Lemmas.ArchiveRt
/-!
  Capstone for C01: an end-to-end WRITE model and READ model assembled **only** from the existing model
  functions (`buildData`/`streamData`/`readData` of Model/Pipeline, `serN`/`serS`/`serEntry` of Model/Entry,
  `encodeArchive`/`readArchiveStream` of Model/Archive + Lemmas/ArchiveRt, `solidEntries` of Model/Solid).
  Nothing new is modelled here; the definitions only say how the proved pieces are plugged together:

    write:  logical files ──(codec, cipher, sink)──► NormalEntry / SolidEntry ──serEntry──► chunks ──encodeArchive──► bytes
    read :  bytes ──readArchiveStream──► ReadEntry list ──open / expand + open──► (name, kind, metadata, xattrs, extra, content)

  The composition theorem is in Props/C01Archive.lean; the glue lemmas are in Lemmas/CapstoneRt.lean.
-/
namespace Pna.Capstone
open Pna

/-- Which writer produced the stored slices: `EntryBuilder`/`SolidEntryBuilder` (sink `FlattenWriter`,
    `buildData`) or `Archive::write_file`/`SolidArchive` (sink `ChunkStreamWriter`, `streamData`). -/
inductive Sink | builder | stream
  deriving DecidableEq, Repr

/-- The configuration of one data stream (an entry's, or a solid block's).  `P`, `C`, `sel`, `key`, `iv` are the
    arguments of the pipeline functions; `phsf` is the PHSF string stored when `sel ≠ .none`; `codec`/`cipher`
    are the header codes under which `C` and `P` are recorded (opaque here: the model never maps a code back to
    an algorithm, it only has to store valid codes). -/
structure StreamCfg where
  P : BlockPerm
  C : Compressor
  sel : CipherSel
  key : Bytes
  iv : Bytes
  phsf : Bytes
  codec : Nat := 0
  cipher : Nat := 1

/-- header byte `encryption`: 0 when nothing is encrypted, else the code of the block cipher -/
def StreamCfg.encryption (cfg : StreamCfg) : Nat :=
  match cfg.sel with
  | .none => 0
  | _ => cfg.cipher

/-- header byte `cipher_mode`: 0 CBC, 1 CTR (0 when nothing is encrypted) -/
def StreamCfg.cipherMode (cfg : StreamCfg) : Nat :=
  match cfg.sel with
  | .ctr => 1
  | _ => 0

/-- the PHSF chunk is written exactly when the stream is encrypted -/
def StreamCfg.phsfChunk (cfg : StreamCfg) : Option Bytes :=
  if cfg.sel = .none then none else some cfg.phsf

/-- What the round trip needs of a configuration: the two laws of the third-party parameters, a 16-byte IV,
    a PHSF string that is UTF-8 and fits a chunk, valid header codes. -/
structure StreamCfg.OK (cfg : StreamCfg) : Prop where
  perm : cfg.P.Lawful
  comp : cfg.C.Lawful
  iv : cfg.iv.length = 16
  phsfUtf8 : validUtf8 cfg.phsf = true
  phsfFit : cfg.phsf.length < 2 ^ 32
  codec : validCompression cfg.codec = true
  cipher : cfg.cipher = 1 ∨ cfg.cipher = 2

/-- the identity "block cipher" (a lawful `BlockPerm`; never applied by `plain`, whose `sel` is `.none`) -/
def idPerm : BlockPerm := ⟨fun _ b => b, fun _ b => b⟩

/-- store / no cipher: the configuration of the entries *inside* a solid block (the block's own stream carries
    codec and cipher).  The IV is never used (`sel = .none`); it is 16 zero bytes only so that `plain.OK`. -/
def plain : StreamCfg :=
  { P := idPerm, C := storeCompressor, sel := .none, key := [], iv := List.replicate 16 0, phsf := [] }

/-- The logical content handed to a writer: the header pieces that matter, metadata, extended attributes,
    uninterpreted chunks, and the sequence of `write` calls (the content is `writes.flatten`). -/
structure LFile where
  name : Bytes
  kind : Nat
  md : Metadata := {}
  xattrs : List XAttr := []
  extra : List Chunk := []
  writes : List Bytes

/-- the stored data slices for the write calls `ws` -/
def storedData (s : Sink) (cfg : StreamCfg) (ws : List Bytes) : List Bytes :=
  match s with
  | .builder => buildData cfg.P cfg.C cfg.sel cfg.key cfg.iv ws
  | .stream => streamData cfg.P cfg.C cfg.sel cfg.key cfg.iv ws

/-- the entry a writer produces for a logical file -/
def buildNormalW (s : Sink) (cfg : StreamCfg) (f : LFile) : NormalEntry :=
  { header := ⟨0, 0, f.kind, cfg.codec, cfg.encryption, cfg.cipherMode, f.name⟩
    phsf := cfg.phsfChunk
    extra := f.extra
    data := storedData s cfg f.writes
    md := f.md
    xattrs := f.xattrs }

/-- `EntryBuilder`: `data := buildData cfg.P cfg.C cfg.sel cfg.key cfg.iv f.writes` -/
def buildNormal (cfg : StreamCfg) (f : LFile) : NormalEntry := buildNormalW .builder cfg f

/-- `NormalEntry::reader(..).read_to_end()` with the key already derived -/
def openNormal (cfg : StreamCfg) (e : NormalEntry) : Outcome Bytes :=
  readData cfg.P cfg.C cfg.sel cfg.key e.data

-- ---------------------------------------------------------------- solid blocks

/-- the inner stream of a solid block: the serialised entries of its files, each built plain -/
def innerStream (fs : List LFile) : Bytes :=
  encodeChunks ((fs.map (buildNormal plain)).flatMap serN)

/-- `SolidEntryBuilder` / `SolidArchive`: the inner stream goes through the block's codec and cipher -/
def buildSolidW (s : Sink) (cfg : StreamCfg) (fs : List LFile) : SolidEntry :=
  { header := ⟨0, 0, cfg.codec, cfg.encryption, cfg.cipherMode⟩
    phsf := cfg.phsfChunk
    data := storedData s cfg [innerStream fs]
    extra := [] }

def buildSolid (cfg : StreamCfg) (fs : List LFile) : SolidEntry := buildSolidW .builder cfg fs

/-- `SolidEntry::entries(password)`: open the decoder stack over the stored data, then iterate.  A failure to
    open/decode is reported as the single item the iterator yields. -/
def expandSolid (cfg : StreamCfg) (s : SolidEntry) : List (Outcome NormalEntry) :=
  match readData cfg.P cfg.C cfg.sel cfg.key s.data with
  | .ok inner => solidEntries ⟨inner, none⟩
  | .error e => [.error e]
  | .panic p => [.panic p]

-- ---------------------------------------------------------------- archives

/-- one top-level item of an archive, with the writer that produces it -/
inductive LItem
  | file (s : Sink) (cfg : StreamCfg) (f : LFile)
  | block (s : Sink) (cfg : StreamCfg) (fs : List LFile)

def LItem.cfg : LItem → StreamCfg
  | .file _ cfg _ => cfg
  | .block _ cfg _ => cfg

def LItem.sink : LItem → Sink
  | .file s _ _ => s
  | .block s _ _ => s

/-- the logical files of an item, block files in place -/
def LItem.files : LItem → List LFile
  | .file _ _ f => [f]
  | .block _ _ fs => fs

def toReadEntry : LItem → ReadEntry
  | .file s cfg f => .normal (buildNormalW s cfg f)
  | .block s cfg fs => .solid (buildSolidW s cfg fs)

/-- `Archive::write_header`, `add_entry` for every item, `finalize` (single part) -/
def writeArchive (items : List LItem) : Bytes :=
  encodeArchive 0 ((items.map toReadEntry).map serEntry) false

/-- what a reader learns about one file -/
structure FileOut where
  name : Bytes
  kind : Nat
  md : Metadata
  xattrs : List XAttr
  extra : List Chunk
  content : Bytes
  deriving DecidableEq, Repr

/-- what must come back for a logical file -/
def LFile.out (f : LFile) : FileOut := ⟨f.name, f.kind, f.md, f.xattrs, f.extra, f.writes.flatten⟩

/-- identity of an entry + its content read to the end -/
def openEntry (cfg : StreamCfg) (e : NormalEntry) : Outcome FileOut :=
  match openNormal cfg e with
  | .ok b => .ok ⟨e.header.name, e.header.kind, e.md, e.xattrs, e.extra, b⟩
  | .error x => .error x
  | .panic p => .panic p

/-- a normal entry is opened; a solid block is expanded and its inner entries are opened plain -/
def openReadEntry (cfg : StreamCfg) : ReadEntry → List (Outcome FileOut)
  | .normal e => [openEntry cfg e]
  | .solid s => (expandSolid cfg s).map fun
      | .ok e => openEntry plain e
      | .error x => .error x
      | .panic p => .panic p

/-- `cfgOf i` is the configuration used for top-level entry number `i` -/
def openAll (cfgOf : Nat → StreamCfg) : List ReadEntry → List (Outcome FileOut)
  | [] => []
  | e :: es => openReadEntry (cfgOf 0) e ++ openAll (fun i => cfgOf (i + 1)) es

structure ReadAll where
  files : List (Outcome FileOut)
  /-- `.ok ()` iff the entry iteration ended with `None` (AEND reached, every item parsed) -/
  status : Outcome Unit
  next : Bool
  deriving DecidableEq, Repr

/-- The analogue of `Archive::entries_with_password` followed by opening every entry.
    Honest about the key: the real reader gets a password from the caller and the parameters (codec, cipher,
    mode, PHSF string with salt and cost) from the archive, and *derives* the key; the derivation is a
    third-party oracle (`deriveKey` in Model/Pipeline, property C16).  Here the reader is handed, per top-level
    entry, the configuration that password + recorded parameters determine — the theorem is about everything
    between the key and the bytes. -/
def readAll (cfgOf : Nat → StreamCfg) (bytes : Bytes) : ReadAll :=
  let r := readArchiveStream bytes
  { files := openAll cfgOf r.entries, status := r.status, next := r.next }

/-- the parameters an entry records for its reader: codec code, cipher code, cipher mode, PHSF string -/
def entryParams : ReadEntry → Nat × Nat × Nat × Option Bytes
  | .normal e => (e.header.compression, e.header.encryption, e.header.cipherMode, e.phsf)
  | .solid s => (s.header.compression, s.header.encryption, s.header.cipherMode, s.phsf)

/-- the same four, as the writer's configuration determines them -/
def StreamCfg.params (cfg : StreamCfg) : Nat × Nat × Nat × Option Bytes :=
  (cfg.codec, cfg.encryption, cfg.cipherMode, cfg.phsfChunk)

/-- how a reader recovers the cipher selection from the two header bytes -/
def selOfHeader (encryption cipherMode : Nat) : CipherSel :=
  if encryption = 0 then .none else if cipherMode = 0 then .cbc else .ctr

/-- the configurations the writer used, by position (anything past the end: `plain`) -/
def cfgsOf (items : List LItem) : Nat → StreamCfg :=
  fun i => (items[i]?.map LItem.cfg).getD plain

-- ---------------------------------------------------------------- well-formedness, in primitive terms

/-- What a logical file must satisfy, stated on its own fields (no reference to the entry built from it):
    exactly what `NormalEntry.WF` (the field codecs are inverse pairs), `NoMarkers` (the item boundaries survive)
    and `ChunksFit` (every chunk payload fits the 32-bit length field) need.  Nothing is asked of `writes`:
    the data chunks are cut at `u32::MAX` by the writer. -/
structure LFile.WF (f : LFile) : Prop where
  kind : validKind f.kind = true
  nameUtf8 : validUtf8 f.name = true
  /-- the name is already in the sanitised form the reader produces -/
  nameSan : sanitize f.name = f.name
  /-- FHED payload = 6 bytes + name -/
  nameFit : f.name.length + 6 < 2 ^ 32
  /-- `extra` chunks are of types the entry parser does not interpret … -/
  extraUn : ∀ c ∈ f.extra, interpretedN c.ty = false
  /-- … nor the archive reader (FEND/SEND/ANXT/AEND) … -/
  extraNM : NoMarkers f.extra
  /-- … and fit a chunk -/
  extraFit : ChunksFit f.extra
  rawSize : ∀ n, f.md.rawSize = some n → n < 2 ^ 128
  created : ∀ n, f.md.created = some n → n < 2 ^ 64
  modified : ∀ n, f.md.modified = some n → n < 2 ^ 64
  accessed : ∀ n, f.md.accessed = some n → n < 2 ^ 64
  perm : ∀ p, f.md.permission = some p → p.WF
  xattrs : ∀ x ∈ f.xattrs, x.WF
  /-- xATR payload = 4 + name + 4 + value -/
  xattrsFit : ∀ x ∈ f.xattrs, x.name.length + x.value.length + 8 < 2 ^ 32

/-- every stored slice fits one chunk -/
def SlicesFit (ds : List Bytes) : Prop := ∀ d ∈ ds, d.length < 2 ^ 32

/-- Well-formed item: a good configuration and well-formed files.  For a solid block the stored slices become
    one SDAT chunk each (`serS` does not re-cut), so they must fit; with the builder sink this always holds
    (`slicesFit_builder` in CapstoneRt), with the streaming sink it is a condition on the codec/cipher writes. -/
def LItem.WF : LItem → Prop
  | .file _ cfg f => cfg.OK ∧ f.WF
  | .block s cfg fs => cfg.OK ∧ (∀ f ∈ fs, f.WF) ∧ SlicesFit (storedData s cfg [innerStream fs])

end Pna.Capstone
