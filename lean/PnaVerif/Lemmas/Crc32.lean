import PnaVerif.Model.Crc32
/-! The CRC-32 register: each step is injective in the state and in the byte, hence two inputs that differ
    in exactly one byte have different CRCs.  The shift identities (`shr_shl_or`, `shr_shl`) are proved bitwise with
    `ext`/`simp`/`omega`; `bv_decide` would add a native axiom. -/
namespace Pna.Crc32

theorem update_append (c : BitVec 32) (a b : Bytes) : update c (a ++ b) = update (update c a) b := by
  simp [update, List.foldl_append]

theorem crc32_lt (bs : Bytes) : crc32 bs < 2 ^ 32 := by
  unfold crc32; exact BitVec.isLt _

theorem poly_msb : poly.getLsbD 31 = true := by decide

theorem shr_msb (c : BitVec 32) : (c >>> 1).getLsbD 31 = false := by simp

theorem shr_shl_or (c : BitVec 32) (h : c.getLsbD 0 = true) : ((c >>> 1) <<< 1) ||| 1#32 = c := by
  ext i hi
  simp [BitVec.getElem_or, BitVec.getElem_shiftLeft, BitVec.getElem_ushiftRight]
  by_cases h0 : i = 0
  · subst h0; simpa using h
  · simp [h0]
    have : 1 + (i - 1) = i := by omega
    rw [this, BitVec.getLsbD_eq_getElem hi]

theorem shr_shl (c : BitVec 32) (h : ¬ c.getLsbD 0 = true) : (c >>> 1) <<< 1 = c := by
  ext i hi
  simp [BitVec.getElem_shiftLeft, BitVec.getElem_ushiftRight]
  by_cases h0 : i = 0
  · subst h0; simpa using h
  · simp [h0]
    have : 1 + (i - 1) = i := by omega
    rw [this, BitVec.getLsbD_eq_getElem hi]

theorem bitUnstep_bitStep (c : BitVec 32) : bitUnstep (bitStep c) = c := by
  unfold bitUnstep bitStep
  by_cases h : c.getLsbD 0 = true
  · have hm : ((c >>> 1) ^^^ poly).getLsbD 31 = true := by
      rw [BitVec.getLsbD_xor, shr_msb, poly_msb]; rfl
    simp only [h, ite_true, hm]
    rw [BitVec.xor_assoc, BitVec.xor_self, BitVec.xor_zero]
    exact shr_shl_or c h
  · have hf : (c.getLsbD 0) = false := by simpa using h
    simp only [hf, Bool.false_eq_true, ite_false, shr_msb]
    exact shr_shl c h

theorem bitStep_injective : Function.Injective bitStep := by
  intro a b h
  have := congrArg bitUnstep h
  simpa [bitUnstep_bitStep] using this

theorem ofNat_byte_injective (b b' : UInt8)
    (h : BitVec.ofNat 32 b.toNat = BitVec.ofNat 32 b'.toNat) : b = b' := by
  have hb := b.toNat_lt
  have hb' := b'.toNat_lt
  have := congrArg BitVec.toNat h
  simp [BitVec.toNat_ofNat] at this
  exact UInt8.toNat_inj.mp (by omega)

theorem byteStep_inj {c c' : BitVec 32} {b b' : UInt8} (h : byteStep c b = byteStep c' b') :
    c ^^^ BitVec.ofNat 32 b.toNat = c' ^^^ BitVec.ofNat 32 b'.toNat :=
  bitStep_injective (bitStep_injective (bitStep_injective (bitStep_injective
    (bitStep_injective (bitStep_injective (bitStep_injective (bitStep_injective h)))))))

theorem byteStep_inj_byte (c : BitVec 32) (b b' : UInt8) (h : byteStep c b = byteStep c b') : b = b' :=
  ofNat_byte_injective b b' ((BitVec.xor_right_inj c).mp (byteStep_inj h))

theorem byteStep_inj_state (c c' : BitVec 32) (b : UInt8) (h : byteStep c b = byteStep c' b) : c = c' := by
  have := congrArg (fun z => z ^^^ BitVec.ofNat 32 b.toNat) (byteStep_inj h)
  simpa [BitVec.xor_assoc] using this

theorem update_inj_state (c c' : BitVec 32) (bs : Bytes) (h : update c bs = update c' bs) : c = c' := by
  induction bs generalizing c c' with
  | nil => simpa [update] using h
  | cons b bs ih =>
    simp only [update, List.foldl_cons] at h
    exact byteStep_inj_state _ _ _ (ih _ _ h)

theorem finalize_injective : Function.Injective finalize := by
  intro a b h
  have := congrArg (fun z => ~~~ z) h
  simpa [finalize] using this

theorem crc32_byte_change (a c : Bytes) (b b' : UInt8) (h : b ≠ b') :
    crc32 (a ++ b :: c) ≠ crc32 (a ++ b' :: c) := by
  intro heq
  unfold crc32 at heq
  have h1 := BitVec.eq_of_toNat_eq heq
  have h2 := finalize_injective h1
  rw [update_append, update_append] at h2
  simp only [update, List.foldl_cons] at h2
  have h3 := update_inj_state _ _ c h2
  exact h (byteStep_inj_byte _ _ _ h3)

theorem crc32_set_ne (bs : Bytes) (i : Nat) (hi : i < bs.length) (v : UInt8) (hv : v ≠ bs[i]) :
    crc32 (bs.set i v) ≠ crc32 bs := by
  rw [List.set_eq_take_append_cons_drop, if_pos hi]
  conv => rhs; rw [← List.take_append_drop i bs, ← List.getElem_cons_drop hi]
  exact crc32_byte_change _ _ _ _ hv

end Pna.Crc32
