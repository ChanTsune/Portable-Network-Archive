import PnaVerif.Model.Pipeline
import PnaVerif.Lemmas.Flatten
/-! The entry data pipeline around the cipher stage: what is stored, and how `readData` takes it
    apart again. -/
namespace Pna

theorem readData_congr (P : BlockPerm) (C : Compressor) (sel : CipherSel) (key : Bytes) (s₁ s₂ : List Bytes)
    (h : s₁.flatten = s₂.flatten) : readData P C sel key s₁ = readData P C sel key s₂ := by
  simp only [readData, h]

/-- Both sinks store the same bytes: the builder only re-cuts what the streaming writer emits. -/
theorem buildData_flatten_eq_streamData (P : BlockPerm) (C : Compressor) (sel : CipherSel)
    (key iv : Bytes) (ws : List Bytes) :
    (buildData P C sel key iv ws).flatten = (streamData P C sel key iv ws).flatten := by
  cases sel <;>
    simp only [buildData, streamData, List.flatten_cons, flattenWriter_flatten maxChunkData maxChunkData_pos]

/-- Stored layout of an encrypted entry: the IV, then the cipher stage's output. -/
theorem streamData_flatten (P : BlockPerm) (C : Compressor) (sel : CipherSel) (key iv : Bytes)
    (ws : List Bytes) (hsel : sel ≠ .none) :
    (streamData P C sel key iv ws).flatten = iv ++ (cipherWrites P sel key iv (C.comp ws)).flatten := by
  cases sel with
  | none => exact absurd rfl hsel
  | cbc => rfl
  | ctr => rfl

theorem buildData_flatten (P : BlockPerm) (C : Compressor) (sel : CipherSel) (key iv : Bytes)
    (ws : List Bytes) (hsel : sel ≠ .none) :
    (buildData P C sel key iv ws).flatten = iv ++ (cipherWrites P sel key iv (C.comp ws)).flatten :=
  (buildData_flatten_eq_streamData P C sel key iv ws).trans (streamData_flatten P C sel key iv ws hsel)

theorem readData_enc (P : BlockPerm) (C : Compressor) (sel : CipherSel) (key : Bytes) (slices : List Bytes)
    (iv ct : Bytes) (hsel : sel ≠ .none) (hf : slices.flatten = iv ++ ct) (hiv : iv.length = 16) :
    readData P C sel key slices =
      (match decryptStream P sel key iv ct with
       | .ok plain => C.decomp plain
       | .error e => .error e
       | .panic s => .panic s) := by
  have hl : ¬ (iv ++ ct).length < 16 := by rw [List.length_append]; omega
  cases sel with
  | none => exact absurd rfl hsel
  | _ =>
    simp only [readData, hf, if_neg hl, List.take_left' hiv, List.drop_left' hiv]
    generalize decryptStream P _ key iv ct = r
    cases r <;> rfl

end Pna
