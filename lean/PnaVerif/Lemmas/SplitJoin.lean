/-! Splitting at a separator and joining with it are core's `List.splitOn` and `List.intercalate [sep]`
    (`Init/Data/List/SplitOn/Lemmas`: `splitOn_ne_nil`, `splitOn_eq_singleton`, `splitOn_append_cons_self`,
    `splitOn_append_cons_self_of_not_mem`, `splitOn_intercalate`, `intercalate_splitOn`).  The model has the pair
    twice — `Cli.Text.splitOn`/`join` on characters, `splitSlash`/`joinSlash` on bytes — and each is that pair
    (`splitOn_eq`, `join_eq` in Lemmas/CliText, `splitSlash_eq`, `joinSlash_eq` in Lemmas/Name).  Here: the recursion
    the model writes out, and the three facts core does not have. -/
namespace List
variable {α : Type} [BEq α] [LawfulBEq α]

/-- the recursion `splitSlash` and `Text.splitOn` write out -/
theorem splitOn_cons_eq_match [DecidableEq α] (sep c : α) (cs : List α) :
    (c :: cs).splitOn sep =
      if c = sep then [] :: cs.splitOn sep
      else match cs.splitOn sep with
        | [] => [[c]]
        | p :: ps => (c :: p) :: ps := by
  rw [splitOn_cons_eq_if_modifyHead]
  by_cases h : c = sep
  · simp [h]
  · have := splitOn_ne_nil sep cs
    rw [if_neg (by simpa using h), if_neg h]
    cases h' : cs.splitOn sep with
    | nil => exact absurd h' this
    | cons p ps => rfl

theorem splitOn_append_of_not_mem (sep : α) (p r : List α) (hp : sep ∉ p) :
    (p ++ r).splitOn sep = (p ++ (r.splitOn sep).head (splitOn_ne_nil sep r)) :: (r.splitOn sep).tail := by
  induction p with
  | nil => simp
  | cons c p ih =>
    rw [mem_cons, not_or] at hp
    rw [cons_append, splitOn_cons_eq_if_modifyHead, if_neg (by simpa using Ne.symm hp.1), ih hp.2]
    rfl

theorem not_mem_of_mem_splitOn (sep : α) (s : List α) : ∀ p ∈ s.splitOn sep, sep ∉ p := by
  induction s with
  | nil => simp
  | cons c cs ih =>
    rw [splitOn_cons_eq_if_modifyHead]
    split
    · simpa using ih
    · rename_i hc
      have hc : sep ≠ c := fun h => hc (by simp [h])
      cases h : cs.splitOn sep with
      | nil => simp
      | cons p ps =>
        rw [h] at ih
        simpa [hc] using ih

omit [BEq α] [LawfulBEq α] in
theorem mem_intercalate_singleton {sep c : α} : ∀ {xs : List (List α)}, c ∈ [sep].intercalate xs →
    c = sep ∨ ∃ x ∈ xs, c ∈ x
  | [], h => by simp at h
  | [x], h => .inr ⟨x, by simp, by simpa using h⟩
  | x :: y :: xs, h => by
    rw [intercalate_cons_cons, mem_append, mem_append, mem_singleton] at h
    rcases h with (h | h) | h
    · exact .inr ⟨x, by simp, h⟩
    · exact .inl h
    · exact (mem_intercalate_singleton h).imp_right fun ⟨z, hz, hc⟩ => ⟨z, mem_cons_of_mem _ hz, hc⟩

end List
