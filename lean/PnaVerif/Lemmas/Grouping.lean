import PnaVerif.Model.Archive
/-!
  What the archive reader does with a token list (Model/Archive.lean): `groupItems` cuts the chunks after AHED into
  items, `parseItems` parses the items one after the other.  Here are the predicates on chunk lists in which the
  theorems about written archives are stated, the laws of the two functions, and how read results compose.

  `ItemWF`: a complete item.  `NoPartMarkers`: no ANXT, no AEND; "clean" in a lemma name (`ItemWF.clean`,
  `items_clean`, `PartOk.clean`, `groupItems_append_clean`) always means this.  `NoMarkers`: no FEND/SEND either.
  `NormalEntry.WF` / `SolidEntry.WF` do NOT exclude structural markers among the uninterpreted `extra` chunks
  (`interpretedN SEND = interpretedN ANXT = interpretedN AEND = false`; the solid `WF` allows FEND/ANXT/AEND).
  An entry whose `extra` contains such a chunk serialises to something that is not one item (e.g. a normal
  entry with `extra = [⟨SEND, []⟩]` is read back as two items, the second failing to parse), so the
  entry-level theorems carry the additional hypothesis `NoMarkers` on the `extra` chunks.

  `groupItems` returns `(items, carry, next, ended)` (closed items, the open item, ANXT seen, AEND reached:
  Model/Archive.lean); `.1`, `.2.1`, `.2.2.1`, `.2.2.2` below are these.  `_proj` marks a law stated with these
  projections (`groupItems_append_proj`: grouping is compositional up to AEND; its `let` form is
  `C04M.groupItems_append`).  Grouping never drops or reorders a chunk: every chunk that is not ANXT is in an item or
  in the carry buffer, in order (`groupItems_partition_proj`).  `openTail` / `closedPart` are the chunks after the
  last FEND/SEND of a chunk list and the chunks up to it; the carry buffer is the open tail (`groupItems_carry_spec`).

  Parsing stops at the first failure, so results of the form "entries so far, how it ended" compose with `seqOut`
  (`parseItems_append`); `cutOut` is such a result when the stream breaks off.  `parseGrouped` / `carryAfter` say
  what a run of chunks contributes, given the open item carried over from the chunks before.
-/
namespace Pna
open ChunkType

/-- a complete item -/
def ItemWF (it : List Chunk) : Prop :=
  ∃ body last, it = body ++ [last] ∧ (last.ty = ChunkType.FEND ∨ last.ty = ChunkType.SEND) ∧
    ∀ c ∈ body, c.ty ≠ ChunkType.FEND ∧ c.ty ≠ ChunkType.SEND ∧ c.ty ≠ ChunkType.ANXT ∧ c.ty ≠ ChunkType.AEND

/-- no structural marker (item terminator FEND/SEND, ANXT, AEND): the extra hypothesis of the entry-level theorems,
    not implied by `NormalEntry.WF` / `SolidEntry.WF` for the `extra` chunks (head comment) -/
def NoMarkers (cs : List Chunk) : Prop :=
  ∀ c ∈ cs, c.ty ≠ ChunkType.FEND ∧ c.ty ≠ ChunkType.SEND ∧ c.ty ≠ ChunkType.ANXT ∧ c.ty ≠ ChunkType.AEND

/-- what may stand between AHED and the end of a part file -/
def NoPartMarkers (cs : List Chunk) : Prop := ∀ c ∈ cs, c.ty ≠ ChunkType.ANXT ∧ c.ty ≠ ChunkType.AEND

theorem NoPartMarkers.noANXT {cs : List Chunk} (h : NoPartMarkers cs) : ∀ c ∈ cs, c.ty ≠ ChunkType.ANXT :=
  fun c hc => (h c hc).1

theorem NoPartMarkers.noAEND {cs : List Chunk} (h : NoPartMarkers cs) : ∀ c ∈ cs, c.ty ≠ ChunkType.AEND :=
  fun c hc => (h c hc).2

theorem NoPartMarkers.append {a b : List Chunk} (ha : NoPartMarkers a) (hb : NoPartMarkers b) :
    NoPartMarkers (a ++ b) :=
  List.forall_mem_append.mpr ⟨ha, hb⟩

theorem NoPartMarkers.left {a b : List Chunk} (h : NoPartMarkers (a ++ b)) : NoPartMarkers a :=
  (List.forall_mem_append.mp h).1

theorem NoPartMarkers.right {a b : List Chunk} (h : NoPartMarkers (a ++ b)) : NoPartMarkers b :=
  (List.forall_mem_append.mp h).2

theorem NoPartMarkers.flatten {bs : List (List Chunk)} (h : ∀ b ∈ bs, NoPartMarkers b) :
    NoPartMarkers bs.flatten :=
  List.forall_mem_flatten.mpr h

theorem ItemWF.clean {it : List Chunk} (hw : ItemWF it) : NoPartMarkers it := by
  obtain ⟨body, last, rfl, hl, hb⟩ := hw
  refine .append (fun c hc => (hb c hc).2.2) fun c hc => ?_
  rcases hl with hl | hl <;> rw [List.mem_singleton.mp hc, hl] <;> decide

theorem items_clean {items : List (List Chunk)} (hw : ∀ it ∈ items, ItemWF it) : NoPartMarkers items.flatten :=
  .flatten fun it hit => (hw it hit).clean

theorem ItemWF_take_noMarkers {it : List Chunk} (hw : ItemWF it) (k : Nat) (hk : k < it.length) :
    NoMarkers (it.take k) := by
  obtain ⟨body, last, rfl, _, hb⟩ := hw
  have hk2 : k ≤ body.length := by simp at hk; omega
  rw [List.take_append_of_le_length hk2]
  intro c hc
  exact hb c (List.mem_of_mem_take hc)

theorem ItemWF_cons (x : Chunk) (it : List Chunk) (hw : ItemWF it)
    (hx : x.ty ≠ ChunkType.FEND ∧ x.ty ≠ ChunkType.SEND ∧ x.ty ≠ ChunkType.ANXT ∧ x.ty ≠ ChunkType.AEND) :
    ItemWF (x :: it) := by
  obtain ⟨b, l, rfl, hl, hb⟩ := hw
  refine ⟨x :: b, l, rfl, hl, ?_⟩
  intro c hc
  rcases List.mem_cons.mp hc with rfl | hc
  · exact hx
  · exact hb c hc

theorem groupItems_nil (cur : List Chunk) (nx : Bool) : groupItems cur nx [] = ([], cur, nx, false) := rfl

theorem groupItems_close (cur : List Chunk) (nx : Bool) (last : Chunk) (rest : List Chunk)
    (hl : last.ty = ChunkType.FEND ∨ last.ty = ChunkType.SEND) :
    groupItems cur nx (last :: rest)
      = ((cur ++ [last]) :: (groupItems [] nx rest).1, (groupItems [] nx rest).2.1,
          (groupItems [] nx rest).2.2.1, (groupItems [] nx rest).2.2.2) := by
  rw [groupItems, if_pos hl]

theorem groupItems_anxt (cur : List Chunk) (nx : Bool) (c : Chunk) (cs : List Chunk) (h : c.ty = ANXT) :
    groupItems cur nx (c :: cs) = groupItems cur true cs := by
  rw [groupItems, if_neg (by rw [h]; decide), if_pos h]

theorem groupItems_aend (cur : List Chunk) (nx : Bool) (c : Chunk) (cs : List Chunk) (h : c.ty = AEND) :
    groupItems cur nx (c :: cs) = ([], cur, nx, true) := by
  rw [groupItems, if_neg (by rw [h]; decide), if_neg (by rw [h]; decide), if_pos h]

theorem groupItems_other (cur : List Chunk) (nx : Bool) (c : Chunk) (cs : List Chunk)
    (h1 : ¬ (c.ty = FEND ∨ c.ty = SEND)) (h2 : c.ty ≠ ANXT) (h3 : c.ty ≠ AEND) :
    groupItems cur nx (c :: cs) = groupItems (cur ++ [c]) nx cs := by
  rw [groupItems, if_neg h1, if_neg h2, if_neg h3]

theorem groupItems_body (body : List Chunk) (hb : NoMarkers body) (cur : List Chunk) (nx : Bool) (rest : List Chunk) :
    groupItems cur nx (body ++ rest) = groupItems (cur ++ body) nx rest := by
  induction body generalizing cur with
  | nil => simp
  | cons c body ih =>
    obtain ⟨h1, h2, h3, h4⟩ := hb c (by simp)
    rw [List.cons_append, groupItems_other _ _ _ _ (by simp [h1, h2]) h3 h4, ih (fun c hc => hb c (by simp [hc]))]
    simp [List.append_assoc]

theorem groupItems_noMarkers (body : List Chunk) (hb : NoMarkers body) (cur : List Chunk) (nx : Bool) :
    groupItems cur nx body = ([], cur ++ body, nx, false) := by
  have h := groupItems_body body hb cur nx []
  rwa [List.append_nil] at h

/-- `xs` must not contain AEND: grouping stops there. -/
theorem groupItems_append_proj (xs ys : List Chunk) (hx : ∀ c ∈ xs, c.ty ≠ ChunkType.AEND)
    (cur : List Chunk) (nx : Bool) :
    groupItems cur nx (xs ++ ys)
      = ((groupItems cur nx xs).1 ++ (groupItems (groupItems cur nx xs).2.1 (groupItems cur nx xs).2.2.1 ys).1,
          (groupItems (groupItems cur nx xs).2.1 (groupItems cur nx xs).2.2.1 ys).2) := by
  induction xs generalizing cur nx with
  | nil => simp [groupItems_nil]
  | cons c xs ih =>
    have hx' : ∀ c ∈ xs, c.ty ≠ ChunkType.AEND := fun d hd => hx d (List.mem_cons_of_mem _ hd)
    have hc : c.ty ≠ ChunkType.AEND := hx c List.mem_cons_self
    rw [List.cons_append]
    by_cases h1 : c.ty = FEND ∨ c.ty = SEND
    · rw [groupItems_close _ _ _ _ h1, groupItems_close _ _ _ _ h1, ih hx']
      simp
    · by_cases h2 : c.ty = ANXT
      · rw [groupItems_anxt _ _ _ _ h2, groupItems_anxt _ _ _ _ h2, ih hx']
      · rw [groupItems_other _ _ _ _ h1 h2 hc, groupItems_other _ _ _ _ h1 h2 hc, ih hx']

theorem groupItems_next_eq (xs : List Chunk) (hx : ∀ c ∈ xs, c.ty ≠ ChunkType.ANXT) (cur : List Chunk) (nx : Bool) :
    (groupItems cur nx xs).2.2.1 = nx := by
  induction xs generalizing cur with
  | nil => rfl
  | cons c xs ih =>
    have hx' : ∀ c ∈ xs, c.ty ≠ ChunkType.ANXT := fun d hd => hx d (List.mem_cons_of_mem _ hd)
    have hc : c.ty ≠ ChunkType.ANXT := hx c List.mem_cons_self
    by_cases h1 : c.ty = FEND ∨ c.ty = SEND
    · rw [groupItems_close _ _ _ _ h1]
      exact ih hx' []
    · by_cases h3 : c.ty = AEND
      · rw [groupItems_aend _ _ _ _ h3]
      · rw [groupItems_other _ _ _ _ h1 hc h3]
        exact ih hx' _

theorem groupItems_ended_eq (xs : List Chunk) (hx : ∀ c ∈ xs, c.ty ≠ ChunkType.AEND) (cur : List Chunk) (nx : Bool) :
    (groupItems cur nx xs).2.2.2 = false := by
  induction xs generalizing cur nx with
  | nil => rfl
  | cons c xs ih =>
    have hx' : ∀ c ∈ xs, c.ty ≠ ChunkType.AEND := fun d hd => hx d (List.mem_cons_of_mem _ hd)
    have hc : c.ty ≠ ChunkType.AEND := hx c List.mem_cons_self
    by_cases h1 : c.ty = FEND ∨ c.ty = SEND
    · rw [groupItems_close _ _ _ _ h1]
      exact ih hx' [] nx
    · by_cases h2 : c.ty = ANXT
      · rw [groupItems_anxt _ _ _ _ h2]
        exact ih hx' _ _
      · rw [groupItems_other _ _ _ _ h1 h2 hc]
        exact ih hx' _ _

theorem groupItems_upto_aend (pre : List Chunk) (a : Chunk) (post : List Chunk)
    (hpre : ∀ c ∈ pre, c.ty ≠ ChunkType.AEND) (ha : a.ty = ChunkType.AEND) (cur : List Chunk) (nx : Bool) :
    groupItems cur nx (pre ++ a :: post)
      = ((groupItems cur nx pre).1, (groupItems cur nx pre).2.1, (groupItems cur nx pre).2.2.1, true) := by
  rw [groupItems_append_proj pre (a :: post) hpre cur nx, groupItems_aend _ _ a post ha, List.append_nil]

theorem groupItems_flatten_items (items : List (List Chunk)) (hw : ∀ it ∈ items, ItemWF it) :
    groupItems [] false items.flatten = (items, [], false, false) := by
  induction items with
  | nil => rfl
  | cons it items ih =>
    obtain ⟨body, last, rfl, hl, hb⟩ := hw it List.mem_cons_self
    rw [List.flatten_cons, List.append_assoc, groupItems_body body hb, List.singleton_append,
      groupItems_close _ _ _ _ hl, ih fun it hit => hw it (List.mem_cons_of_mem _ hit), List.nil_append]

/-- the optional ANXT in front of AEND -/
def anxtIf (b : Bool) : List Chunk := if b then [⟨ChunkType.ANXT, []⟩] else []

theorem anxtIf_noAEND {body : List Chunk} (hno : ∀ c ∈ body, c.ty ≠ ChunkType.AEND) (b : Bool) :
    ∀ c ∈ body ++ anxtIf b, c.ty ≠ ChunkType.AEND :=
  List.forall_mem_append.mpr ⟨hno, by cases b <;> decide⟩

theorem anxtIf_any {body : List Chunk} (hx : ∀ c ∈ body, c.ty ≠ ANXT) (b : Bool) :
    (body ++ anxtIf b).any (·.ty == ANXT) = b := by
  rw [List.any_append, List.any_eq_false.2 fun c hc => by simpa using hx c hc]
  cases b <;> rfl

theorem groupItems_anxtIf (body : List Chunk) (hx : ∀ c ∈ body, c.ty ≠ ChunkType.ANXT)
    (hno : ∀ c ∈ body, c.ty ≠ ChunkType.AEND) (b : Bool) (cur : List Chunk) :
    groupItems cur false (body ++ anxtIf b)
      = ((groupItems cur false body).1, (groupItems cur false body).2.1, b, false) := by
  rw [groupItems_append_proj body _ hno, groupItems_next_eq body hx]
  cases b
  · rw [anxtIf, if_neg (by decide), groupItems_nil, List.append_nil]
  · rw [anxtIf, if_pos rfl, groupItems_anxt _ _ _ _ rfl, groupItems_nil, List.append_nil]

/-- `hno`: after AEND nothing is looked at.  That the end flag stays down is `groupItems_ended_eq`. -/
theorem groupItems_partition_proj (cs : List Chunk) (hno : ∀ c ∈ cs, c.ty ≠ ChunkType.AEND) :
    ∀ (cur : List Chunk) (nx : Bool),
      (groupItems cur nx cs).1.flatten ++ (groupItems cur nx cs).2.1
        = cur ++ cs.filter (fun c => decide (c.ty ≠ ChunkType.ANXT)) := by
  induction cs with
  | nil => intro cur nx; simp [groupItems_nil]
  | cons c cs ih =>
    intro cur nx
    have ih := ih fun d hd => hno d (List.mem_cons_of_mem _ hd)
    by_cases h1 : c.ty = FEND ∨ c.ty = SEND
    · have hnx : c.ty ≠ ChunkType.ANXT := by
        rcases h1 with h | h <;> rw [h] <;> decide
      rw [groupItems_close _ _ _ _ h1, List.flatten_cons, List.append_assoc, ih,
        List.filter_cons_of_pos (by simpa using hnx)]
      simp
    · by_cases h2 : c.ty = ANXT
      · rw [groupItems_anxt _ _ _ _ h2, ih, List.filter_cons_of_neg (by simpa using h2)]
      · rw [groupItems_other _ _ _ _ h1 h2 (hno c List.mem_cons_self), ih, List.filter_cons_of_pos (by simpa using h2)]
        simp

/-- FEND or SEND: the chunk that closes a raw item -/
def isEnd (c : Chunk) : Bool := decide (c.ty = ChunkType.FEND ∨ c.ty = ChunkType.SEND)

theorem isEnd_iff (c : Chunk) : isEnd c = true ↔ (c.ty = ChunkType.FEND ∨ c.ty = ChunkType.SEND) := by
  simp [isEnd]

/-- the chunks after the last FEND/SEND chunk (all chunks when there is none) -/
def openTail (cs : List Chunk) : List Chunk := (cs.reverse.takeWhile (fun c => !isEnd c)).reverse

/-- the chunks up to and including the last FEND/SEND chunk (none when there is none) -/
def closedPart (cs : List Chunk) : List Chunk := (cs.reverse.dropWhile (fun c => !isEnd c)).reverse

theorem closedPart_append_openTail (cs : List Chunk) : closedPart cs ++ openTail cs = cs := by
  unfold closedPart openTail
  rw [← List.reverse_append, List.takeWhile_append_dropWhile, List.reverse_reverse]

theorem openTail_no_end (cs : List Chunk) : ∀ c ∈ openTail cs, ¬ (c.ty = ChunkType.FEND ∨ c.ty = ChunkType.SEND) := by
  intro c hc
  unfold openTail at hc
  rw [List.mem_reverse] at hc
  have := List.all_eq_true.mp List.all_takeWhile _ hc
  intro h
  rw [(isEnd_iff c).mpr h] at this
  exact absurd this (by decide)

theorem closedPart_ends (cs : List Chunk) :
    closedPart cs = [] ∨ ∃ p e, closedPart cs = p ++ [e] ∧ (e.ty = ChunkType.FEND ∨ e.ty = ChunkType.SEND) := by
  unfold closedPart
  cases h : cs.reverse.dropWhile (fun c => !isEnd c) with
  | nil => exact Or.inl rfl
  | cons e l =>
    refine Or.inr ⟨l.reverse, e, by simp, ?_⟩
    have := List.head_dropWhile_not (fun c => !isEnd c) (l := cs.reverse) (by rw [h]; simp)
    simp only [h, List.head_cons] at this
    exact (isEnd_iff e).mp (by simpa using this)

/-- the decomposition is unique: `openTail` is THE end-free suffix preceded by nothing or by FEND/SEND -/
theorem openTail_unique (pre tail : List Chunk)
    (ht : ∀ c ∈ tail, ¬ (c.ty = ChunkType.FEND ∨ c.ty = ChunkType.SEND))
    (hp : pre = [] ∨ ∃ p e, pre = p ++ [e] ∧ (e.ty = ChunkType.FEND ∨ e.ty = ChunkType.SEND)) :
    openTail (pre ++ tail) = tail ∧ closedPart (pre ++ tail) = pre := by
  have htw : ∀ c ∈ tail.reverse, (fun c => !isEnd c) c = true := by
    intro c hc
    have := ht c (List.mem_reverse.mp hc)
    cases h : isEnd c with
    | false => simp [h]
    | true => exact absurd ((isEnd_iff c).mp h) this
  unfold openTail closedPart
  rw [List.reverse_append]
  rcases hp with rfl | ⟨p, e, rfl, he⟩
  · simp only [List.reverse_nil, List.append_nil]
    have e1 := List.takeWhile_append_of_pos (l₂ := []) htw
    have e2 := List.dropWhile_append_of_pos (l₂ := []) htw
    rw [List.append_nil] at e1 e2
    rw [e1, e2]
    simp
  · have he2 : (fun c => !isEnd c) e = false := by simp [(isEnd_iff e).mpr he]
    rw [List.reverse_append, List.reverse_singleton, List.singleton_append]
    rw [List.takeWhile_append_of_pos htw, List.dropWhile_append_of_pos htw]
    rw [List.takeWhile_cons_of_neg (by simp [he2]), List.dropWhile_cons_of_neg (by simp [he2])]
    simp

/-- The carry buffer is the open tail, stated for any decomposition `pre ++ tail` of the kind `openTail_unique`
    speaks of; `groupItems_carry_openTail` is the instance `closedPart cs ++ openTail cs`. -/
theorem groupItems_carry_spec (pre tail : List Chunk) (hno : NoPartMarkers (pre ++ tail))
    (ht : ∀ c ∈ tail, ¬ (c.ty = ChunkType.FEND ∨ c.ty = ChunkType.SEND))
    (hp : pre = [] ∨ ∃ p e, pre = p ++ [e] ∧ (e.ty = ChunkType.FEND ∨ e.ty = ChunkType.SEND)) (nx : Bool) :
    (groupItems [] nx (pre ++ tail)).2.1 = tail ∧ (groupItems [] nx (pre ++ tail)).1.flatten = pre := by
  have hnm : NoMarkers tail := fun c hc =>
    ⟨fun h => ht c hc (Or.inl h), fun h => ht c hc (Or.inr h), (hno.right c hc).1, (hno.right c hc).2⟩
  have hcarry : (groupItems [] nx (pre ++ tail)).2.1 = tail := by
    rw [groupItems_append_proj pre tail hno.left.noAEND [] nx, groupItems_noMarkers tail hnm]
    show (groupItems [] nx pre).2.1 ++ tail = tail
    rcases hp with rfl | ⟨p, e, rfl, he⟩
    · rfl
    · -- after FEND/SEND nothing is open
      rw [groupItems_append_proj p [e] hno.left.left.noAEND, groupItems_close _ _ _ _ he]
      rfl
  refine ⟨hcarry, ?_⟩
  have h := groupItems_partition_proj (pre ++ tail) hno.noAEND [] nx
  rw [hcarry, List.nil_append, List.filter_eq_self.mpr (by intro c hc; simpa using (hno c hc).1)] at h
  exact List.append_cancel_right h

theorem groupItems_carry_openTail (cs : List Chunk) (hno : NoPartMarkers cs) (nx : Bool) :
    (groupItems [] nx cs).2.1 = openTail cs ∧ (groupItems [] nx cs).1.flatten = closedPart cs := by
  have h := groupItems_carry_spec (closedPart cs) (openTail cs) (by rw [closedPart_append_openTail]; exact hno)
    (openTail_no_end cs) (closedPart_ends cs) nx
  rw [closedPart_append_openTail] at h
  exact h

/-- the shape of every item `groupItems` hands out: exactly one closing chunk (FEND or SEND), at its end; the open
    item `cur` must hold none -/
theorem groupItems_items_closed (cs : List Chunk) : ∀ (cur : List Chunk) (nx : Bool),
    (∀ c ∈ cur, ¬ (c.ty = ChunkType.FEND ∨ c.ty = ChunkType.SEND)) →
    ∀ it ∈ (groupItems cur nx cs).1, ∃ b e, it = b ++ [e] ∧ (e.ty = ChunkType.FEND ∨ e.ty = ChunkType.SEND) ∧
      ∀ c ∈ b, ¬ (c.ty = ChunkType.FEND ∨ c.ty = ChunkType.SEND) := by
  induction cs with
  | nil => intro cur nx _ it hit; simp [groupItems_nil] at hit
  | cons c cs ih =>
    intro cur nx hcur it hit
    by_cases h1 : c.ty = FEND ∨ c.ty = SEND
    · rw [groupItems_close _ _ _ _ h1] at hit
      rcases List.mem_cons.mp hit with rfl | hit
      · exact ⟨cur, c, rfl, h1, hcur⟩
      · exact ih [] nx (fun _ h => absurd h List.not_mem_nil) it hit
    · rw [groupItems, if_neg h1] at hit
      split at hit
      · exact ih cur true hcur it hit
      · split at hit
        · simp at hit
        · refine ih (cur ++ [c]) nx ?_ it hit
          intro d hd
          rcases List.mem_append.mp hd with hd | hd
          · exact hcur d hd
          · rw [List.mem_singleton.mp hd]; exact h1

theorem parseItems_length_le (its : List (List Chunk)) : (parseItems its).1.length ≤ its.length := by
  induction its with
  | nil => exact Nat.le_refl _
  | cons it its ih =>
    rw [parseItems]
    split
    · exact Nat.zero_le _
    · exact Nat.zero_le _
    · exact Nat.succ_le_succ ih

/-- `match o with | .ok _ => .ok () | o => o` is the identity on `Outcome Unit`.
    Keep this the first `match` on an `Outcome Unit` with the alternatives `.ok _` / `o` in this file: Lean shares
    one matcher per module among matches of the same shape and names it after the declaration that made it, so a
    lemma with such a `match` put in front of this one changes what this statement, `seqOut` and `cutOut` elaborate
    to.  The build passes either way: only the matcher's name in the elaborated terms differs, which matters to
    anything that compares elaborated statements. -/
theorem outcome_unit_norm (o : Outcome Unit) : (match o with | .ok _ => Outcome.ok () | o => o) = o := by
  cases o <;> rfl

/-- sequencing two "entries so far, how it ended" results: the second one counts only if the first ended well -/
def seqOut (p q : List ReadEntry × Outcome Unit) : List ReadEntry × Outcome Unit :=
  match p.2 with
  | .ok _ => (p.1 ++ q.1, q.2)
  | o => (p.1, o)

theorem seqOut_ok (es : List ReadEntry) (u : Unit) (q : List ReadEntry × Outcome Unit) :
    seqOut (es, .ok u) q = (es ++ q.1, q.2) := rfl

theorem seqOut_nil_right (p : List ReadEntry × Outcome Unit) : seqOut p ([], .ok ()) = p := by
  obtain ⟨es, o⟩ := p
  cases o <;> simp [seqOut]

theorem seqOut_assoc (p q r : List ReadEntry × Outcome Unit) : seqOut (seqOut p q) r = seqOut p (seqOut q r) := by
  obtain ⟨es, o⟩ := p
  obtain ⟨es2, o2⟩ := q
  cases o <;> cases o2 <;> simp [seqOut]

theorem seqOut_fst_prefix (p q : List ReadEntry × Outcome Unit) : p.1 <+: (seqOut p q).1 := by
  obtain ⟨es, o⟩ := p
  cases o <;> simp [seqOut]

theorem parseItems_cons (it : List Chunk) (its : List (List Chunk)) :
    parseItems (it :: its) = seqOut (parseItems [it]) (parseItems its) := by
  simp only [parseItems]
  cases parseEntry it <;> simp [seqOut]

theorem parseItems_append (a b : List (List Chunk)) :
    parseItems (a ++ b) = seqOut (parseItems a) (parseItems b) := by
  induction a with
  | nil => simp [parseItems, seqOut]
  | cons it a ih =>
    rw [List.cons_append, parseItems_cons, ih, ← seqOut_assoc, ← parseItems_cons]

theorem parseItems_prefix (a b : List (List Chunk)) : (parseItems a).1 <+: (parseItems (a ++ b)).1 := by
  rw [parseItems_append]
  exact seqOut_fst_prefix _ _

/-- what a complete reader reports for a chunk sequence that continues an open item `cur` -/
def parseGrouped (cur : List Chunk) (cs : List Chunk) : List ReadEntry × Outcome Unit :=
  parseItems (groupItems cur false cs).1

/-- the open item left after `cs` -/
def carryAfter (cur : List Chunk) (cs : List Chunk) : List Chunk := (groupItems cur false cs).2.1

theorem groupItems_append_clean (cur xs ys : List Chunk) (hx : NoPartMarkers xs) :
    groupItems cur false (xs ++ ys)
      = ((groupItems cur false xs).1 ++ (groupItems (carryAfter cur xs) false ys).1,
          (groupItems (carryAfter cur xs) false ys).2) := by
  rw [groupItems_append_proj xs ys hx.noAEND, groupItems_next_eq xs hx.noANXT]
  rfl

theorem parseGrouped_append (cur xs ys : List Chunk) (hx : NoPartMarkers xs) :
    parseGrouped cur (xs ++ ys) = seqOut (parseGrouped cur xs) (parseGrouped (carryAfter cur xs) ys) := by
  unfold parseGrouped
  rw [groupItems_append_clean cur xs ys hx, parseItems_append]

theorem carryAfter_append (cur xs ys : List Chunk) (hx : NoPartMarkers xs) :
    carryAfter cur (xs ++ ys) = carryAfter (carryAfter cur xs) ys := by
  rw [carryAfter, groupItems_append_clean cur xs ys hx]
  rfl

theorem parseGrouped_prefix (cur xs ys : List Chunk) (hx : NoPartMarkers xs) :
    (parseGrouped cur xs).1 <+: (parseGrouped cur (xs ++ ys)).1 := by
  rw [parseGrouped_append cur xs ys hx]
  exact seqOut_fst_prefix _ _

theorem parseGrouped_nil (cur : List Chunk) : parseGrouped cur [] = ([], .ok ()) := rfl
theorem carryAfter_nil (cur : List Chunk) : carryAfter cur [] = cur := rfl

/-- what a reader reports when the stream breaks off: the entries so far, then the first parse error,
    or else `UnexpectedEof` — never success -/
def cutOut (p : List ReadEntry × Outcome Unit) : List ReadEntry × Outcome Unit :=
  (p.1, match p.2 with | .ok _ => .error .eof | o => o)

theorem cutOut_not_ok (p : List ReadEntry × Outcome Unit) (u : Unit) : (cutOut p).2 ≠ .ok u := by
  obtain ⟨es, o⟩ := p
  cases o <;> simp [cutOut]

theorem cutOut_eof (es : List ReadEntry) (u : Unit) : cutOut (es, .ok u) = (es, .error .eof) := rfl

theorem cutOut_fst (p : List ReadEntry × Outcome Unit) : (cutOut p).1 = p.1 := rfl

theorem seqOut_cutOut (p q : List ReadEntry × Outcome Unit) : seqOut p (cutOut q) = cutOut (seqOut p q) := by
  obtain ⟨es, o⟩ := p
  obtain ⟨es2, o2⟩ := q
  cases o <;> cases o2 <;> simp [seqOut, cutOut]

theorem seqOut_cutOut_left (p q : List ReadEntry × Outcome Unit) : seqOut (cutOut p) q = cutOut p := by
  obtain ⟨es, o⟩ := p
  cases o <;> rfl

instance (cs : List Chunk) : Decidable (NoMarkers cs) := by
  unfold NoMarkers
  infer_instance

instance (cs : List Chunk) : Decidable (NoPartMarkers cs) := by
  unfold NoPartMarkers
  infer_instance

/-- `ItemWF` without the existential, for the `Decidable` instance -/
theorem itemWF_iff (it : List Chunk) :
    ItemWF it ↔ ∃ h : it ≠ [], ((it.getLast h).ty = FEND ∨ (it.getLast h).ty = SEND) ∧ NoMarkers it.dropLast := by
  constructor
  · rintro ⟨body, last, rfl, hl, hb⟩
    exact ⟨by simp, by simpa using hl, by rw [List.dropLast_concat]; exact hb⟩
  · rintro ⟨h, hl, hb⟩
    exact ⟨_, _, (List.dropLast_concat_getLast h).symm, hl, hb⟩

instance (it : List Chunk) : Decidable (ItemWF it) := decidable_of_iff _ (itemWF_iff it).symm

end Pna
