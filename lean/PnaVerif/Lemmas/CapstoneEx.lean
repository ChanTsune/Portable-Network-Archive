import PnaVerif.Lemmas.Toy
import PnaVerif.Lemmas.CapstoneRt
/-!
  Concrete material for the non-vacuity instances of Props/C01Archive, C14Layout and C18Entry: a codec that
  is not the identity (`maskCodec`), three configurations over the toy cipher (lawful: `toy_lawful`, Lemmas/Toy),
  four logical files and the example archive `exItems` built from them, with the proofs that they satisfy the
  hypotheses of the end-to-end theorem; `Decidable` instances that make `LFile.WF` of a concrete file an evaluation.
-/
namespace Pna.Capstone
open Pna Pna.Toy

/-- a toy "codec" that is not the identity (every byte masked with 0x55), to exercise the codec stage -/
def maskCodec : Compressor :=
  ⟨fun ws => ws.map (List.map (· ^^^ 0x55)), fun b => .ok (b.map (· ^^^ 0x55))⟩

theorem maskCodec_lawful : maskCodec.Lawful := by
  intro ws
  simp only [maskCodec]
  rw [← List.map_flatten, List.map_map]
  have : ((fun x : UInt8 => x ^^^ 0x55) ∘ fun x => x ^^^ 0x55) = id := by
    funext x; exact UInt8.xor_xor_cancel_right' x 0x55
  rw [this, List.map_id]

def exKey : Bytes := (List.range 32).map fun i => UInt8.ofNat (7 * i + 3)
def exIvA : Bytes := (List.range 16).map fun i => UInt8.ofNat (i + 1)
def exIvB : Bytes := (List.range 16).map fun i => UInt8.ofNat (200 - 3 * i)
/-- `$toy$v=1` -/
def exPhsf : Bytes := [36, 116, 111, 121, 36, 118, 61, 49]

/-- toy cipher in CBC mode, store -/
def exCbc : StreamCfg :=
  { P := Toy.perm, C := storeCompressor, sel := .cbc, key := exKey, iv := exIvA, phsf := exPhsf,
    codec := 0, cipher := 1 }
/-- toy cipher in CTR mode, masking codec -/
def exCtr : StreamCfg :=
  { P := Toy.perm, C := maskCodec, sel := .ctr, key := exKey, iv := exIvB, phsf := exPhsf,
    codec := 2, cipher := 2 }
/-- toy cipher in CBC mode over the masking codec: the stream of the solid block -/
def exCbcMask : StreamCfg :=
  { P := Toy.perm, C := maskCodec, sel := .cbc, key := exKey, iv := exIvB, phsf := exPhsf,
    codec := 4, cipher := 1 }

/-- file `a`: a private chunk, size, mtime, owner, one xattr; content written in three calls (one empty) -/
def exA : LFile :=
  { name := [97], kind := 0,
    md := { rawSize := some 5, modified := some 7, permission := some ⟨1000, [117], 1000, [103], 420⟩ },
    xattrs := [⟨[117], [9]⟩], extra := [⟨⟨109, 121, 84, 121⟩, [1, 2, 3]⟩],
    writes := [[1, 2, 3], [], [4, 5]] }
/-- file `d/b`: 20 bytes written in two calls -/
def exB : LFile :=
  { name := [100, 47, 98], kind := 0, writes := [(List.range 17).map UInt8.ofNat, [30, 31, 32]] }
/-- file `c` and directory `d`, members of the solid block -/
def exC : LFile := { name := [99], kind := 0, md := { created := some 1 }, writes := [[7, 7, 7]] }
def exD : LFile := { name := [100], kind := 1, writes := [] }

/-- a built CBC entry, a streamed CTR entry, a built solid block of two files -/
def exItems : List LItem :=
  [.file .builder exCbc exA, .file .stream exCtr exB, .block .builder exCbcMask [exC, exD]]

theorem exCbc_ok : exCbc.OK :=
  ⟨toy_lawful, C01.store_lawful, by decide, by decide +kernel, by decide, by decide, Or.inl rfl⟩
theorem exCtr_ok : exCtr.OK :=
  ⟨toy_lawful, maskCodec_lawful, by decide, by decide +kernel, by decide, by decide, Or.inr rfl⟩
theorem exCbcMask_ok : exCbcMask.OK :=
  ⟨toy_lawful, maskCodec_lawful, by decide, by decide +kernel, by decide, by decide, Or.inl rfl⟩

instance (p : Permission) : Decidable p.WF := by
  unfold Permission.WF
  infer_instance

instance (x : XAttr) : Decidable x.WF := by
  unfold XAttr.WF
  infer_instance

/-- `LFile.WF` is a finite check (the bounds on optional metadata read as `∀ n ∈ option, …`): for a concrete file
    evaluation settles it -/
instance (f : LFile) : Decidable f.WF :=
  decidable_of_iff
    (validKind f.kind = true ∧ validUtf8 f.name = true ∧ sanitize f.name = f.name ∧ f.name.length + 6 < 2 ^ 32 ∧
      (∀ c ∈ f.extra, interpretedN c.ty = false) ∧
      (∀ c ∈ f.extra, c.ty ≠ ChunkType.FEND ∧ c.ty ≠ ChunkType.SEND ∧ c.ty ≠ ChunkType.ANXT ∧ c.ty ≠ ChunkType.AEND) ∧
      (∀ c ∈ f.extra, c.data.length < 2 ^ 32) ∧
      (∀ n ∈ f.md.rawSize, n < 2 ^ 128) ∧ (∀ n ∈ f.md.created, n < 2 ^ 64) ∧ (∀ n ∈ f.md.modified, n < 2 ^ 64) ∧
      (∀ n ∈ f.md.accessed, n < 2 ^ 64) ∧ (∀ p ∈ f.md.permission, p.WF) ∧ (∀ x ∈ f.xattrs, x.WF) ∧
      (∀ x ∈ f.xattrs, x.name.length + x.value.length + 8 < 2 ^ 32))
    ⟨fun h => by
        obtain ⟨a, b, c, d, e, g, h, i, j, k, l, m, n, o⟩ := h
        exact ⟨a, b, c, d, e, g, h, i, j, k, l, m, n, o⟩,
      fun h => ⟨h.kind, h.nameUtf8, h.nameSan, h.nameFit, h.extraUn, h.extraNM, h.extraFit, h.rawSize, h.created,
        h.modified, h.accessed, h.perm, h.xattrs, h.xattrsFit⟩⟩

theorem exA_wf : exA.WF := by decide +kernel
theorem exB_wf : exB.WF := by decide +kernel
theorem exC_wf : exC.WF := by decide +kernel
theorem exD_wf : exD.WF := by decide +kernel

theorem exItems_wf : ∀ it ∈ exItems, it.WF :=
  List.forall_mem_cons.2 ⟨⟨exCbc_ok, exA_wf⟩, List.forall_mem_cons.2 ⟨⟨exCtr_ok, exB_wf⟩,
    List.forall_mem_singleton.2 ⟨exCbcMask_ok, List.forall_mem_cons.2 ⟨exC_wf, List.forall_mem_singleton.2 exD_wf⟩,
      slicesFit_builder exCbcMask exCbcMask_ok.iv _⟩⟩⟩

end Pna.Capstone
