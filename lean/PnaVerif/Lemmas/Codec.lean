import PnaVerif.Lemmas.Outcome
import PnaVerif.Lemmas.Chunk
import PnaVerif.Model.Codec
/-! The header and metadata codecs.  For each decoder: what it answers on an encoding (`decX_encX`),
    and what it accepted when it answers `ok`: the shape of the input for SHED, FHED and the timestamps (`decX_ok`),
    for AHED its length only (`decAHED_ok_length`), for XATR and FPRM that the value is well formed (`decX_WF`,
    no `decX_ok`); `decFSIZ` cannot fail and has the bound `decFSIZ_lt` instead.  The decoders are chains of
    `readExact` and of guards `if bad then error else …`, and both are inverted by rewriting
    (`readExact_bind_eq_ok`, `guard_eq_ok`); no decoder panics (`decX_no_panic`). -/
namespace Pna

-- the domains on which `encFPRM` / `encXATR` are inverted by their decoders

def Permission.WF (p : Permission) : Prop :=
  p.uid < 2 ^ 64 ∧ p.gid < 2 ^ 64 ∧ p.mode < 2 ^ 16 ∧ p.uname.length ≤ 255 ∧ p.gname.length ≤ 255 ∧
  validUtf8 p.uname = true ∧ validUtf8 p.gname = true

def XAttr.WF (x : XAttr) : Prop :=
  x.name.length < 2 ^ 32 ∧ x.value.length < 2 ^ 32 ∧ validUtf8 x.name = true

theorem byteOf_toNat (n : Nat) (h : n < 256) : (byteOf n).toNat = n := by
  simp [byteOf, UInt8.toNat_ofNat', Nat.mod_eq_of_lt h]

theorem byteOf_toNat' (b : UInt8) : byteOf b.toNat = b := by
  simp [byteOf, UInt8.ofNat_toNat]

/-- a name cut at the length its one length byte `s.take 1` announces -/
theorem length_take_fromBe_one (s r : Bytes) : (r.take (fromBe (s.take 1))).length ≤ 255 := by
  have := fromBe_take_lt 1 s
  rw [List.length_take]; omega

theorem decAHED_encAHED (h : ArchiveHeader) (h1 : h.major < 256) (h2 : h.minor < 256)
    (h3 : h.number < 2 ^ 32) : decAHED (encAHED h) = .ok h := by
  have h4 := be32_length h.number
  unfold encAHED
  match hb : be32 h.number, h4 with
  | [a, b, c, d], _ =>
    simp only [List.cons_append, List.nil_append, decAHED]
    rw [← hb, byteOf_toNat _ h1, byteOf_toNat _ h2, fromBe_be32_lt h3]

theorem decAHED_ok_length (d : Bytes) (hd : ArchiveHeader) (h : decAHED d = .ok hd) : d.length = 8 := by
  unfold decAHED at h
  split at h
  · rfl
  · cases h

theorem encAHED_length (h : ArchiveHeader) : (encAHED h).length = 8 := by
  simp [encAHED]

theorem AHED_encode_length (n : Nat) : (Chunk.mk ChunkType.AHED (encAHED ⟨0, 0, n⟩)).encode.length = 20 := by
  rw [Chunk.encode_length, encAHED_length]

theorem decSHED_ok {bs : Bytes} {h : SolidHeader} (hd : decSHED bs = .ok h) :
    ∃ a b c e m, bs = [a, b, c, e, m] ∧ validCompression c.toNat = true ∧
      validEncryption e.toNat = true ∧ validCipherMode m.toNat = true ∧
      h = ⟨a.toNat, b.toNat, c.toNat, e.toNat, m.toNat⟩ := by
  unfold decSHED at hd
  split at hd
  · simp only [guard_eq_ok, Bool.not_eq_true', Bool.not_eq_false, Outcome.ok.injEq] at hd
    obtain ⟨g1, g2, g3, rfl⟩ := hd
    exact ⟨_, _, _, _, _, rfl, g1, g2, g3, rfl⟩
  · cases hd

theorem valid_lt_256 {c e m : Nat} (hc : validCompression c = true) (he : validEncryption e = true)
    (hm : validCipherMode m = true) : c < 256 ∧ e < 256 ∧ m < 256 := by
  simp [validCompression, validEncryption, validCipherMode] at hc he hm; omega

theorem decSHED_encSHED (h : SolidHeader) (h1 : h.major < 256) (h2 : h.minor < 256)
    (hc : validCompression h.compression = true) (he : validEncryption h.encryption = true)
    (hm : validCipherMode h.cipherMode = true) : decSHED (encSHED h) = .ok h := by
  obtain ⟨c256, e256, m256⟩ := valid_lt_256 hc he hm
  simp only [encSHED, decSHED, byteOf_toNat _ h1, byteOf_toNat _ h2, byteOf_toNat _ c256,
    byteOf_toNat _ e256, byteOf_toNat _ m256, hc, he, hm]
  rfl

theorem decTime_ok {bs : Bytes} {n : Nat} (h : decTime bs = .ok n) : bs.length = 8 ∧ n = fromBe bs := by
  unfold decTime at h
  split at h
  · cases h; exact ⟨‹_›, rfl⟩
  · cases h

theorem decTime_encTime (n : Nat) (h : n < 2 ^ 64) : decTime (encTime n) = .ok n := by
  rw [decTime, encTime, if_pos (be64_length n), be64, fromBe_beN_lt 8 n h]

theorem decTime_lt {bs : Bytes} {n : Nat} (h : decTime bs = .ok n) : n < 2 ^ 64 := by
  obtain ⟨h8, rfl⟩ := decTime_ok h
  exact (h8 ▸ fromBe_lt bs : fromBe bs < 256 ^ 8)

theorem fromBe_dropLeadingZeros (bs : Bytes) : fromBe (dropLeadingZeros bs) = fromBe bs := by
  induction bs with
  | nil => rfl
  | cons b bs ih =>
    unfold dropLeadingZeros
    split
    · rename_i hb; subst hb; rw [ih]; simp [fromBe]
    · rfl

theorem dropLeadingZeros_length_le (bs : Bytes) : (dropLeadingZeros bs).length ≤ bs.length := by
  induction bs with
  | nil => simp [dropLeadingZeros]
  | cons b bs ih =>
    unfold dropLeadingZeros
    split
    · simp; omega
    · simp

theorem encFSIZ_length_le (n : Nat) : (encFSIZ n).length ≤ 16 := by
  have := dropLeadingZeros_length_le (be128 n)
  have h16 : (be128 n).length = 16 := beN_length 16 n
  unfold encFSIZ
  omega

theorem decFSIZ_encFSIZ (n : Nat) (h : n < 2 ^ 128) : decFSIZ (encFSIZ n) = n := by
  rw [decFSIZ, Nat.sub_eq_zero_of_le (encFSIZ_length_le n), List.drop_zero, encFSIZ, fromBe_dropLeadingZeros,
    be128, fromBe_beN_lt 16 n h]

theorem decFSIZ_lt (bs : Bytes) : decFSIZ bs < 2 ^ 128 :=
  Nat.lt_of_lt_of_le (fromBe_lt _)
    (Nat.pow_le_pow_right (by decide) (by rw [List.length_drop]; omega) : _ ≤ 256 ^ 16)

theorem decXATR_encXATR (x : XAttr) (hn : x.name.length < 2 ^ 32) (hv : x.value.length < 2 ^ 32)
    (hu : validUtf8 x.name = true) : decXATR (encXATR x) = .ok x := by
  have cut : ∀ (n : Nat) (r : Bytes), splitFirstChunk 4 (be32 n ++ r) = some (be32 n, r) := by
    intro n r
    rw [splitFirstChunk, if_pos (by simp), List.take_left' (be32_length _), List.drop_left' (be32_length _)]
  simp only [decXATR, encXATR, List.append_assoc, cut, fromBe_be32_lt hn, fromBe_be32_lt hv, splitPayload,
    List.length_append, Nat.le_add_right, ite_true, List.take_left', List.drop_left', hu, Bool.not_true,
    Bool.false_eq_true, ite_false, Nat.le_refl, List.take_length]

theorem decXATR_WF {bs : Bytes} {x : XAttr} (h : decXATR bs = .ok x) : x.WF := by
  unfold decXATR splitFirstChunk splitPayload at h
  split at h
  · cases h
  rename_i l1 r1 h1
  split at h <;> try cases h
  rename_i name r2 h2
  rw [guard_eq_ok] at h
  obtain ⟨hv, h⟩ := h
  split at h
  · cases h
  rename_i l3 r3 h3
  split at h <;> cases h
  split at h1 <;> cases h1
  split at h2 <;> cases h2
  split at h3 <;> cases h3
  have b1 := fromBe_take_lt 4 bs
  have b3 := fromBe_take_lt 4 (List.drop (fromBe (List.take 4 bs)) (List.drop 4 bs))
  exact ⟨by rw [List.length_take]; omega, by rw [List.length_take]; omega, by simpa using hv⟩

theorem decFPRM_encFPRM (p : Permission) (hu : p.uname.length ≤ 255) (hg : p.gname.length ≤ 255)
    (huid : p.uid < 2 ^ 64) (hgid : p.gid < 2 ^ 64) (hm : p.mode < 2 ^ 16)
    (hvu : validUtf8 p.uname = true) (hvg : validUtf8 p.gname = true) :
    decFPRM (encFPRM p) = .ok p := by
  have one : ∀ n : Nat, n ≤ 255 → fromBe [byteOf n] = n := fun n h => by
    rw [fromBe_single, byteOf_toNat _ (by omega)]
  simp only [decFPRM, encFPRM, List.append_assoc]
  rw [readExact_append_bind _ _ 8 (be64_length _), readExact_append_bind _ _ 1 rfl]
  simp only [one _ hu]
  rw [readExact_append_bind _ _ _ rfl]
  simp only [hvu, Bool.not_true, Bool.false_eq_true, ite_false]
  rw [readExact_append_bind _ _ 8 (be64_length _), readExact_append_bind _ _ 1 rfl]
  simp only [one _ hg]
  rw [readExact_append_bind _ _ _ rfl]
  simp only [hvg, Bool.not_true, Bool.false_eq_true, ite_false]
  rw [← List.append_nil (be16 p.mode), readExact_append_bind _ _ 2 (be16_length _)]
  simp only [be64, be16, fromBe_beN_lt 8 _ huid, fromBe_beN_lt 8 _ hgid, fromBe_beN_lt 2 _ hm]

theorem decFPRM_WF {bs : Bytes} {p : Permission} (h : decFPRM bs = .ok p) : p.WF := by
  simp only [decFPRM, readExact_bind_eq_ok, guard_eq_ok, Bool.not_eq_true', Bool.not_eq_false,
    Outcome.ok.injEq] at h
  obtain ⟨-, -, -, hu, -, -, -, hg, -, rfl⟩ := h
  exact ⟨fromBe_take_lt 8 _, fromBe_take_lt 8 _, fromBe_take_lt 2 _, length_take_fromBe_one _ _,
    length_take_fromBe_one _ _, hu, hg⟩

/-- `hs`: the decoder sanitises the name, so only a name in sanitised form comes back unchanged. -/
theorem decFHED_encFHED (h : EntryHeader) (h1 : h.major < 256) (h2 : h.minor < 256)
    (hk : validKind h.kind = true) (hc : validCompression h.compression = true)
    (he : validEncryption h.encryption = true) (hm : validCipherMode h.cipherMode = true)
    (hu : validUtf8 h.name = true) (hs : sanitize h.name = h.name) :
    decFHED (encFHED h) = .ok h := by
  have k256 : h.kind < 256 := by simp [validKind] at hk; omega
  obtain ⟨c256, e256, m256⟩ := valid_lt_256 hc he hm
  simp only [encFHED, List.cons_append, List.nil_append, decFHED, byteOf_toNat _ h1, byteOf_toNat _ h2,
    byteOf_toNat _ k256, byteOf_toNat _ c256, byteOf_toNat _ e256, byteOf_toNat _ m256, hk, hc, he, hm, hu, hs]
  rfl

theorem decFHED_ok {bs : Bytes} {h : EntryHeader} (hd : decFHED bs = .ok h) :
    ∃ a b k c e m name, bs = a :: b :: k :: c :: e :: m :: name ∧
      validKind k.toNat = true ∧ validCompression c.toNat = true ∧ validEncryption e.toNat = true ∧
      validCipherMode m.toNat = true ∧ validUtf8 name = true ∧
      h = ⟨a.toNat, b.toNat, k.toNat, c.toNat, e.toNat, m.toNat, sanitize name⟩ := by
  unfold decFHED at hd
  split at hd
  · simp only [guard_eq_ok, Bool.not_eq_true', Bool.not_eq_false, Outcome.ok.injEq] at hd
    obtain ⟨g1, g2, g3, g4, g5, rfl⟩ := hd
    exact ⟨_, _, _, _, _, _, _, rfl, g1, g2, g3, g4, g5, rfl⟩
  · cases hd

theorem encTime_length (n : Nat) : (encTime n).length = 8 := be64_length n

theorem encFPRM_length (p : Permission) : (encFPRM p).length = 20 + p.uname.length + p.gname.length := by
  simp [encFPRM]
  omega

theorem encXATR_length (x : XAttr) : (encXATR x).length = x.name.length + x.value.length + 8 := by
  simp [encXATR]
  omega

theorem encFHED_length (h : EntryHeader) : (encFHED h).length = h.name.length + 6 := by
  simp [encFHED]

theorem decAHED_no_panic (bs : Bytes) : (decAHED bs).isPanic = false := by
  unfold decAHED; split <;> rfl

theorem decFHED_no_panic (bs : Bytes) : (decFHED bs).isPanic = false := by
  unfold decFHED
  split
  · repeat' apply guard_no_panic
    rfl
  · rfl

theorem decSHED_no_panic (bs : Bytes) : (decSHED bs).isPanic = false := by
  unfold decSHED
  split
  · repeat' apply guard_no_panic
    rfl
  · rfl

theorem decTime_no_panic (bs : Bytes) : (decTime bs).isPanic = false := by
  unfold decTime; split <;> rfl

theorem decFPRM_no_panic (bs : Bytes) : (decFPRM bs).isPanic = false := by
  unfold decFPRM
  refine bind_no_panic _ _ (readExact_no_panic _ _) fun _ => ?_
  refine bind_no_panic _ _ (readExact_no_panic _ _) fun _ => ?_
  refine bind_no_panic _ _ (readExact_no_panic _ _) fun _ => ?_
  refine guard_no_panic _ _ _ ?_
  refine bind_no_panic _ _ (readExact_no_panic _ _) fun _ => ?_
  refine bind_no_panic _ _ (readExact_no_panic _ _) fun _ => ?_
  refine bind_no_panic _ _ (readExact_no_panic _ _) fun _ => ?_
  refine guard_no_panic _ _ _ ?_
  exact bind_no_panic _ _ (readExact_no_panic _ _) fun _ => rfl

theorem decXATR_no_panic (bs : Bytes) : (decXATR bs).isPanic = false := by
  unfold decXATR splitPayload
  split
  · rfl
  · split
    · rfl
    · rename_i s hs; split at hs <;> cases hs
    · refine guard_no_panic _ _ _ ?_
      split
      · rfl
      · split <;> rfl

end Pna
