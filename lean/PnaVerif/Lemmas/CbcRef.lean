import PnaVerif.Lemmas.Blocks
/-! The reference CBC functions `cbcEncrypt` / `cbcDecrypt` one block at a time.  A CBC stream
    behind its first block is again a CBC stream, with that block as IV (`cbcDecrypt_append`,
    `cbcEncrypt_append`); everything about whole messages follows by `chunks_induction 16`.
    Names in `cbcr` belong to the proof of the decrypting reader `CbcR` (Lemmas/CbcReader.lean) — `cbcrPre` and
    `cbcrFinish` are defined here because `cbcDecrypt_append` is stated with them — and `wk_` is the prefix of the
    wrong-key lemmas (Lemmas/WrongKey.lean), of which `wk_cbcrFinish_nil` stands here beside `cbcrFinish`. -/
namespace Pna

/-- the stream that delivers `pre` and then goes on as the argument: an error or panic of the rest is that of the
    whole.  The future of a reader state (`cbcrFuture`) and the recursion of `cbcrFinish` are stated with it. -/
def cbcrPre (pre : Bytes) : Outcome Bytes → Outcome Bytes
  | .ok r => .ok (pre ++ r)
  | .error e => .error e
  | .panic m => .panic m

@[simp] theorem cbcrPre_ok (p r : Bytes) : cbcrPre p (.ok r) = .ok (p ++ r) := rfl
@[simp] theorem cbcrPre_error (p : Bytes) (e : Err) : cbcrPre p (.error e) = .error e := rfl
@[simp] theorem cbcrPre_panic (p : Bytes) (m : String) : cbcrPre p (.panic m) = .panic m := rfl

theorem cbcrPre_nil (x : Outcome Bytes) : cbcrPre [] x = x := by
  cases x <;> rfl

theorem cbcrPre_append (a b : Bytes) (x : Outcome Bytes) :
    cbcrPre (a ++ b) x = cbcrPre a (cbcrPre b x) := by
  cases x <;> simp [cbcrPre]

theorem cbcrPre_eq_ok_append (p b rest : Bytes) (x : Outcome Bytes) (h : p.length = b.length) :
    cbcrPre p x = .ok (b ++ rest) ↔ p = b ∧ x = .ok rest := by
  cases x with
  | ok r =>
    rw [cbcrPre_ok, Outcome.ok.injEq, Outcome.ok.injEq]
    exact ⟨fun hh => List.append_inj hh h, fun ⟨h1, h2⟩ => by rw [h1, h2]⟩
  | error e => exact ⟨fun hh => (by cases hh), fun hh => (by cases hh.2)⟩
  | panic m => exact ⟨fun hh => (by cases hh), fun hh => (by cases hh.2)⟩

/-- The tail of `cbcDecrypt`: unpad the last plaintext block. -/
def cbcrFinish (blocks : List Bytes) : Outcome Bytes :=
  match blocks.getLast? with
  | none => .error .eof
  | some last =>
    match pkcs7Unpad last with
    | none => .error .invalidData
    | some tail => .ok (blocks.dropLast.flatten ++ tail)

theorem wk_cbcrFinish_nil : cbcrFinish [] = .error .eof := rfl

theorem cbcrFinish_single (p : Bytes) :
    cbcrFinish [p] = match pkcs7Unpad p with
      | none => .error .invalidData
      | some t => .ok t := by
  unfold cbcrFinish
  simp only [List.getLast?_singleton, List.dropLast_singleton, List.flatten_nil, List.nil_append]

theorem cbcrFinish_cons (p : Bytes) (L : List Bytes) (h : L ≠ []) :
    cbcrFinish (p :: L) = cbcrPre p (cbcrFinish L) := by
  obtain ⟨a, L', rfl⟩ := List.exists_cons_of_ne_nil h
  unfold cbcrFinish
  rw [List.getLast?_cons_cons, List.dropLast_cons_cons]
  cases (a :: L').getLast? with
  | none => rfl
  | some last =>
    simp only []
    cases pkcs7Unpad last with
    | none => rfl
    | some t => simp [cbcrPre]

/-- Chaining value after the reference encryption of the blocks, starting from `c`. -/
def cbcChain (P : BlockPerm) (k : Bytes) (c : Bytes) : List Bytes → Bytes
  | [] => c
  | b :: bs => cbcChain P k (P.E k (xorBytes b c)) bs

theorem cbcEncBlocks_length (P : BlockPerm) (k c : Bytes) (xs : List Bytes) :
    (cbcEncBlocks P k c xs).length = xs.length := by
  induction xs generalizing c with
  | nil => rfl
  | cons b bs ih => simp [cbcEncBlocks, ih]

theorem cbcEncBlocks_ignores (P : BlockPerm) (hE : ∀ k b b', P.E k b = P.E k b') (k chain chain' : Bytes)
    (bs bs' : List Bytes) (h : bs.length = bs'.length) :
    cbcEncBlocks P k chain bs = cbcEncBlocks P k chain' bs' := by
  induction bs generalizing bs' chain chain' with
  | nil => cases bs' with
    | nil => rfl
    | cons _ _ => simp at h
  | cons b bs ih =>
    cases bs' with
    | nil => simp at h
    | cons b' bs' =>
      simp only [cbcEncBlocks]
      rw [hE k (xorBytes b chain) (xorBytes b' chain')]
      congr 1
      exact ih _ _ _ (by simpa using h)

theorem cbcChain_eq_getLast (P : BlockPerm) (k c : Bytes) (xs : List Bytes) :
    cbcChain P k c xs = ((cbcEncBlocks P k c xs).getLast?).getD c := by
  induction xs generalizing c with
  | nil => rfl
  | cons b bs ih =>
    simp only [cbcChain, cbcEncBlocks, ih]
    cases h : cbcEncBlocks P k (P.E k (xorBytes b c)) bs with
    | nil => simp
    | cons x xs => simp [List.getLast?_cons]

section
variable (P : BlockPerm) (k : Bytes)

theorem cbcr_cbcDecrypt_eq (iv ct : Bytes) :
    cbcDecrypt P k iv ct =
      if ct.length = 0 ∨ ct.length % 16 ≠ 0 then .error .eof
      else cbcrFinish (cbcDecBlocks P k iv (toBlocks ct)) := rfl

theorem cbcDecrypt_of_mod (iv ct : Bytes) (h : ct.length % 16 ≠ 0) :
    cbcDecrypt P k iv ct = .error .eof := by
  rw [cbcr_cbcDecrypt_eq, if_pos (Or.inr h)]

theorem cbcDecrypt_of_blocks (iv ct : Bytes) (h0 : ct ≠ [])
    (hm : ct.length % 16 = 0) :
    cbcDecrypt P k iv ct = cbcrFinish (cbcDecBlocks P k iv (toBlocks ct)) := by
  rw [cbcr_cbcDecrypt_eq, if_neg]
  rintro (h | h)
  · exact h0 (List.eq_nil_of_length_eq_zero h)
  · exact h hm

theorem cbcDecrypt_single (iv b : Bytes) (h : b.length = 16) :
    cbcDecrypt P k iv b = match pkcs7Unpad (xorBytes (P.D k b) iv) with
      | none => .error .invalidData
      | some t => .ok t := by
  have hne : b ≠ [] := by intro h0; rw [h0] at h; cases h
  rw [cbcDecrypt_of_blocks P k iv b hne (by rw [h]), toBlocks_small b (Nat.le_of_eq h) hne,
    cbcDecBlocks, cbcDecBlocks, cbcrFinish_single]

theorem cbcDecrypt_append (iv b rest : Bytes) (h : b.length = 16)
    (hne : rest ≠ []) :
    cbcDecrypt P k iv (b ++ rest) = cbcrPre (xorBytes (P.D k b) iv) (cbcDecrypt P k b rest) := by
  have hl : (b ++ rest).length % 16 = rest.length % 16 := by
    rw [List.length_append, h, Nat.add_mod_left]
  by_cases hm : rest.length % 16 = 0
  · have hnb : cbcDecBlocks P k b (toBlocks rest) ≠ [] := by
      cases ht : toBlocks rest with
      | nil => exact absurd ht (toBlocks_ne_nil rest hne)
      | cons x xs => exact List.cons_ne_nil _ _
    rw [cbcDecrypt_of_blocks P k b rest hne hm,
      cbcDecrypt_of_blocks P k iv _ (List.append_ne_nil_of_right_ne_nil b hne) (hl.trans hm),
      toBlocks_append b rest h, cbcDecBlocks, cbcrFinish_cons _ _ hnb]
  · rw [cbcDecrypt_of_mod P k b rest hm, cbcDecrypt_of_mod P k iv _ (by rw [hl]; exact hm)]
    rfl

theorem cbcr_cbcDecrypt_no_panic (iv ct : Bytes) (m : String) :
    cbcDecrypt P k iv ct ≠ .panic m := by
  rw [cbcr_cbcDecrypt_eq]
  split
  · intro h; cases h
  · unfold cbcrFinish
    split
    · intro h; cases h
    · split
      · intro h; cases h
      · intro h; cases h

theorem cbcDecrypt_cases (iv ct : Bytes) (h0 : ct ≠ []) (hm : ct.length % 16 = 0) :
    cbcDecrypt P k iv ct = .error .invalidData ∨ ∃ b, cbcDecrypt P k iv ct = .ok b := by
  obtain ⟨x, xs, ht⟩ := List.exists_cons_of_ne_nil (toBlocks_ne_nil ct h0)
  rw [cbcDecrypt_of_blocks P k iv ct h0 hm, ht, cbcDecBlocks, cbcrFinish,
    List.getLast?_eq_some_getLast (List.cons_ne_nil _ _)]
  simp only []
  split
  · exact Or.inl rfl
  · exact Or.inr ⟨_, rfl⟩

theorem cbcEncBlocks_append (c : Bytes) (xs ys : List Bytes) :
    cbcEncBlocks P k c (xs ++ ys)
      = cbcEncBlocks P k c xs ++ cbcEncBlocks P k (cbcChain P k c xs) ys := by
  induction xs generalizing c with
  | nil => rfl
  | cons b bs ih => simp [cbcEncBlocks, cbcChain, ih]

theorem cbcEncrypt_small (iv r : Bytes) (h : r.length < 16) :
    cbcEncrypt P k iv r = P.E k (xorBytes (pkcs7PadBlock r) iv) := by
  rw [cbcEncrypt, padBlocks_small r h, cbcEncBlocks, cbcEncBlocks, List.flatten_singleton]

theorem cbcEncrypt_append (iv b rest : Bytes) (h : b.length = 16) :
    cbcEncrypt P k iv (b ++ rest)
      = P.E k (xorBytes b iv) ++ cbcEncrypt P k (P.E k (xorBytes b iv)) rest := by
  rw [cbcEncrypt, padBlocks_append b rest h, cbcEncBlocks, List.flatten_cons, cbcEncrypt]

end

section
variable (P : BlockPerm) (hP : P.Lawful) (k : Bytes)
include hP

theorem cbcEncBlocks_all16 (bs : List Bytes) :
    ∀ chain : Bytes, chain.length = 16 → (∀ b ∈ bs, b.length = 16) →
      ∀ c ∈ cbcEncBlocks P k chain bs, c.length = 16 := by
  induction bs with
  | nil => intro _ _ _ c hc; cases hc
  | cons b bs ih =>
    intro chain hch hall
    have hc : (P.E k (xorBytes b chain)).length = 16 :=
      hP.lenE k _ (by rw [xorBytes_length, hall b List.mem_cons_self, hch]; rfl)
    rw [cbcEncBlocks]
    exact List.forall_mem_cons.mpr ⟨hc, ih _ hc fun x hx => hall x (List.mem_cons_of_mem _ hx)⟩

theorem cbcEncrypt_length (iv msg : Bytes) (hiv : iv.length = 16) :
    (cbcEncrypt P k iv msg).length = 16 * (toBlocks (pkcs7Pad msg)).length := by
  rw [cbcEncrypt, flatten_length_of_all 16 _
    (cbcEncBlocks_all16 P hP k _ iv hiv (padBlocks_all16 msg).2), cbcEncBlocks_length]

theorem cbcEncrypt_ne_nil (iv msg : Bytes) (hiv : iv.length = 16) :
    cbcEncrypt P k iv msg ≠ [] := by
  have h := cbcEncrypt_length P hP k iv msg hiv
  have := List.length_pos_iff.mpr (padBlocks_all16 msg).1
  intro h0; rw [h0] at h; simp only [List.length_nil] at h; omega

/-- Decrypting with `k2` what `k` encrypted gives the message back exactly when
    `D k2` agrees with `D k` on every ciphertext block: the message fixes every plaintext
    block, the padded one included, and with the chaining values every `D k2 c`. -/
theorem cbcDecrypt_cbcEncrypt_iff (k2 msg : Bytes) :
    ∀ iv : Bytes, iv.length = 16 →
      (cbcDecrypt P k2 iv (cbcEncrypt P k iv msg) = .ok msg ↔
        ∀ c ∈ cbcEncBlocks P k iv (toBlocks (pkcs7Pad msg)), P.D k2 c = P.D k c) := by
  induction msg using chunks_induction 16 (by decide) with
  | small r hr =>
    intro iv hiv
    have hp := pkcs7PadBlock_length r hr
    have hx : (xorBytes (pkcs7PadBlock r) iv).length = 16 := by rw [xorBytes_length, hp, hiv]; rfl
    have hc := hP.lenE k _ hx
    have hd := hP.lenD k2 _ hc
    rw [cbcEncrypt_small P k iv r hr, padBlocks_small r hr, cbcEncBlocks, cbcEncBlocks,
      List.forall_mem_singleton, hP.inv k _ hx, cbcDecrypt_single P k2 iv _ hc,
      ← xorBytes_eq_iff _ _ iv (by omega) (by omega),
      ← pkcs7Unpad_full_iff _ r (by rw [xorBytes_length, hd, hiv]; rfl) hr]
    cases pkcs7Unpad (xorBytes (P.D k2 (P.E k (xorBytes (pkcs7PadBlock r) iv))) iv) with
    | none => exact ⟨nofun, nofun⟩
    | some t => exact ⟨fun h => congrArg some (Outcome.ok.inj h), fun h => congrArg _ (Option.some.inj h)⟩
  | full b rest hb ih =>
    intro iv hiv
    have hx : (xorBytes b iv).length = 16 := by rw [xorBytes_length, hb, hiv]; rfl
    have hc := hP.lenE k _ hx
    have hd := hP.lenD k2 _ hc
    rw [cbcEncrypt_append P k iv b rest hb, padBlocks_append b rest hb, cbcEncBlocks,
      List.forall_mem_cons, hP.inv k _ hx,
      cbcDecrypt_append P k2 iv _ _ hc (cbcEncrypt_ne_nil P hP k _ rest hc),
      cbcrPre_eq_ok_append _ _ _ _ (by rw [xorBytes_length, hd, hiv, hb]; rfl), ih _ hc,
      xorBytes_eq_iff _ _ iv (by omega) (by omega)]

theorem cbcDecrypt_cbcEncrypt (iv msg : Bytes) (hiv : iv.length = 16) :
    cbcDecrypt P k iv (cbcEncrypt P k iv msg) = .ok msg :=
  (cbcDecrypt_cbcEncrypt_iff P hP k k msg iv hiv).mpr fun _ _ => rfl

end

end Pna
