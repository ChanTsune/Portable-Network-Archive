import PnaVerif.Model.Stream
/-! `<[u8]>::chunks(N)`, `FlattenWriter<N>` and `FlattenReader`: nothing is lost, nothing is
    reordered, pieces respect the bound, and reads are insensitive to the caller's buffer sizes. -/
namespace Pna

theorem rustChunks_nil (N : Nat) : rustChunks N [] = [] := by
  rw [rustChunks]; simp

theorem rustChunks_zero (bs : Bytes) : rustChunks 0 bs = [] := by
  rw [rustChunks]; simp

theorem rustChunks_step (N : Nat) (hN : 0 < N) (bs : Bytes) (hne : bs ≠ []) :
    rustChunks N bs = bs.take N :: rustChunks N (bs.drop N) := by
  rw [rustChunks, dif_neg (by simp [hne, Nat.ne_of_gt hN])]

theorem rustChunks_append (N : Nat) (hN : 0 < N) (b rest : Bytes) (h : b.length = N) :
    rustChunks N (b ++ rest) = b :: rustChunks N rest := by
  have hne : b ++ rest ≠ [] := by
    intro h0; rw [List.append_eq_nil_iff] at h0; rw [h0.1] at h; exact Nat.ne_of_lt hN h
  rw [rustChunks_step N hN _ hne, List.take_left' h, List.drop_left' h]

theorem rustChunks_small (N : Nat) (bs : Bytes) (h : bs.length ≤ N) (hne : bs ≠ []) :
    rustChunks N bs = [bs] := by
  have hl : 0 < bs.length := List.length_pos_iff.mpr hne
  rw [rustChunks_step N (by omega) bs hne, List.take_of_length_le h, List.drop_of_length_le h,
    rustChunks_nil]

/-- Induction along `chunks(N)`: a buffer is a short one, or a full piece in front of a buffer. -/
theorem chunks_induction (N : Nat) (hN : 0 < N) {motive : Bytes → Prop}
    (small : ∀ r : Bytes, r.length < N → motive r)
    (full : ∀ b rest : Bytes, b.length = N → motive rest → motive (b ++ rest)) (bs : Bytes) :
    motive bs := by
  induction h : bs.length using Nat.strongRecOn generalizing bs with
  | _ len ih =>
    by_cases hlt : bs.length < N
    · exact small bs hlt
    · rw [← List.take_append_drop N bs]
      exact full _ _ (by rw [List.length_take]; omega)
        (ih _ (by rw [List.length_drop]; omega) _ rfl)

theorem rustChunks_flatten (N : Nat) (hN : 0 < N) (bs : Bytes) : (rustChunks N bs).flatten = bs := by
  induction bs using chunks_induction N hN with
  | small r hr =>
    by_cases hne : r = []
    · rw [hne, rustChunks_nil]; rfl
    · rw [rustChunks_small N r (by omega) hne, List.flatten_singleton]
  | full b rest hb ih => rw [rustChunks_append N hN b rest hb, List.flatten_cons, ih]

theorem rustChunks_pieces (N : Nat) (hN : 0 < N) (bs : Bytes) :
    ∀ p ∈ rustChunks N bs, p ≠ [] ∧ p.length ≤ N := by
  induction bs using chunks_induction N hN with
  | small r hr =>
    by_cases hne : r = []
    · rw [hne, rustChunks_nil]; intro p hp; cases hp
    · rw [rustChunks_small N r (by omega) hne]
      intro p hp
      rw [List.mem_singleton.mp hp]
      exact ⟨hne, by omega⟩
  | full b rest hb ih =>
    rw [rustChunks_append N hN b rest hb]
    intro p hp
    rcases List.mem_cons.mp hp with rfl | hp
    · exact ⟨by intro h0; rw [h0] at hb; exact Nat.ne_of_lt hN hb, by omega⟩
    · exact ih p hp

theorem flattenWriter_eq_flatMap (N : Nat) (ws : List Bytes) :
    flattenWriter N ws = ws.flatMap (rustChunks N) := by
  have h : ∀ st, ws.foldl (flattenWrite N) st = st ++ ws.flatMap (rustChunks N) := by
    induction ws with
    | nil => exact fun st => (List.append_nil st).symm
    | cons w ws ih =>
      intro st
      rw [List.foldl_cons, ih, flattenWrite, List.flatMap_cons, List.append_assoc]
  exact h []

theorem rustChunks_flatMap_flatten (N : Nat) (hN : 0 < N) (ds : List Bytes) :
    (ds.flatMap (rustChunks N)).flatten = ds.flatten := by
  induction ds with
  | nil => rfl
  | cons d ds ih =>
    rw [List.flatMap_cons, List.flatten_append, ih, rustChunks_flatten N hN, List.flatten_cons]

theorem maxChunkData_pos : 0 < maxChunkData := by decide

theorem sum_length_flatMap_rustChunks (ds : List Bytes) :
    ((ds.flatMap (rustChunks maxChunkData)).map List.length).sum = (ds.map List.length).sum := by
  rw [← List.length_flatten, ← List.length_flatten, rustChunks_flatMap_flatten _ maxChunkData_pos]

theorem flattenWriter_flatten (N : Nat) (hN : 0 < N) (ws : List Bytes) :
    (flattenWriter N ws).flatten = ws.flatten := by
  rw [flattenWriter_eq_flatMap, rustChunks_flatMap_flatten N hN]

theorem flattenWriter_pieces (N : Nat) (hN : 0 < N) (ws : List Bytes) :
    ∀ p ∈ flattenWriter N ws, p ≠ [] ∧ p.length ≤ N := by
  intro p hp
  rw [flattenWriter_eq_flatMap] at hp
  obtain ⟨w, _, hw⟩ := List.mem_flatMap.mp hp
  exact rustChunks_pieces N hN w p hw

theorem FlatR.read_zero (s : FlatR) : s.read 0 = (s, []) := by
  unfold FlatR.read; rw [if_pos rfl]

theorem FlatR.read_pos (s : FlatR) (n : Nat) (hn : 0 < n) : s.read n = FlatR.read.go n s.slices := by
  unfold FlatR.read
  rw [if_neg (Nat.ne_of_gt hn)]

theorem FlatR.read.go_nil (n : Nat) : FlatR.read.go n [] = (⟨[]⟩, []) := rfl

theorem FlatR.read.go_cons_nil (n : Nat) (cs : List Bytes) :
    FlatR.read.go n ([] :: cs) = FlatR.read.go n cs := by
  rw [FlatR.read.go]; rw [if_pos rfl]

theorem FlatR.read.go_cons_ne (n : Nat) (c : Bytes) (cs : List Bytes) (hc : c ≠ []) :
    FlatR.read.go n (c :: cs) = (⟨c.drop n :: cs⟩, c.take n) := by
  rw [FlatR.read.go]; rw [if_neg hc]

theorem FlatR.read.go_spec (n : Nat) (hn : 0 < n) (cs : List Bytes) :
    (FlatR.read.go n cs).2 ++ (FlatR.read.go n cs).1.slices.flatten = cs.flatten ∧
    (FlatR.read.go n cs).2.length ≤ n ∧
    ((FlatR.read.go n cs).2 = [] ↔ cs.flatten = []) := by
  induction cs with
  | nil => exact ⟨rfl, Nat.zero_le n, fun _ => rfl, fun _ => rfl⟩
  | cons c cs ih =>
    by_cases hc : c = []
    · subst hc
      rw [FlatR.read.go_cons_nil]
      exact ih
    · rw [FlatR.read.go_cons_ne n c cs hc]
      have hl : 0 < c.length := List.length_pos_iff.mpr hc
      refine ⟨?_, ?_, ?_, ?_⟩
      · show c.take n ++ (c.drop n :: cs).flatten = (c :: cs).flatten
        rw [List.flatten_cons, List.flatten_cons, ← List.append_assoc, List.take_append_drop]
      · show (c.take n).length ≤ n
        rw [List.length_take]
        exact Nat.min_le_left _ _
      · intro h
        rcases List.take_eq_nil_iff.mp h with h0 | h0
        · omega
        · exact absurd h0 hc
      · intro h
        rw [List.flatten_cons] at h
        exact absurd (List.append_eq_nil_iff.mp h).1 hc

theorem FlatR.read_conserves (s : FlatR) (n : Nat) :
    (s.read n).2 ++ (s.read n).1.slices.flatten = s.slices.flatten := by
  by_cases hn : n = 0
  · subst hn; rw [FlatR.read_zero]; rfl
  · rw [FlatR.read_pos s n (by omega)]; exact (FlatR.read.go_spec n (by omega) s.slices).1

theorem FlatR.read_progress (s : FlatR) (n : Nat) (hn : 0 < n) :
    (s.read n).2 = [] ↔ s.slices.flatten = [] := by
  rw [FlatR.read_pos s n hn]; exact (FlatR.read.go_spec n hn s.slices).2.2

theorem FlatR.read_le (s : FlatR) (n : Nat) : (s.read n).2.length ≤ n := by
  by_cases hn : n = 0
  · subst hn; rw [FlatR.read_zero]; exact Nat.le_refl 0
  · rw [FlatR.read_pos s n (by omega)]; exact (FlatR.read.go_spec n (by omega) s.slices).2.1

theorem FlatR.run_nil (s : FlatR) : FlatR.run s [] = [] := rfl

theorem FlatR.run_cons (s : FlatR) (n : Nat) (ns : List Nat) :
    FlatR.run s (n :: ns) = (s.read n).2 :: FlatR.run (s.read n).1 ns := rfl

theorem FlatR.run_prefix (s : FlatR) (sched : List Nat) :
    ∃ rest, (FlatR.run s sched).flatten ++ rest = s.slices.flatten := by
  induction sched generalizing s with
  | nil => exact ⟨s.slices.flatten, rfl⟩
  | cons n ns ih =>
    obtain ⟨rest, hrest⟩ := ih (s.read n).1
    refine ⟨rest, ?_⟩
    rw [FlatR.run_cons, List.flatten_cons, List.append_assoc, hrest, FlatR.read_conserves]

theorem FlatR.readToEnd_cons (s : FlatR) (acc : Bytes) (n : Nat) (ns : List Nat) :
    FlatR.readToEnd s acc (n :: ns)
      = if (s.read n).2 = [] then some acc
        else FlatR.readToEnd (s.read n).1 (acc ++ (s.read n).2) ns := rfl

/-- The bound on a schedule that ran out: every call before the one that signals the end returns
    at least one byte. -/
theorem FlatR.readToEnd_spec (sched : List Nat) (hpos : ∀ n ∈ sched, 0 < n) :
    ∀ (s : FlatR) (acc : Bytes),
      FlatR.readToEnd s acc sched = some (acc ++ s.slices.flatten) ∨
      (FlatR.readToEnd s acc sched = none ∧ sched.length ≤ s.slices.flatten.length) := by
  induction sched with
  | nil => exact fun s acc => Or.inr ⟨rfl, Nat.zero_le _⟩
  | cons n ns ih =>
    intro s acc
    have hc := FlatR.read_conserves s n
    rw [FlatR.readToEnd_cons]
    by_cases ho : (s.read n).2 = []
    · rw [if_pos ho, (FlatR.read_progress s n (hpos n List.mem_cons_self)).mp ho, List.append_nil]
      exact Or.inl rfl
    · rw [if_neg ho, ← hc, ← List.append_assoc]
      rcases ih (fun m hm => hpos m (List.mem_cons_of_mem _ hm)) (s.read n).1 (acc ++ (s.read n).2)
        with h | ⟨h, hl⟩
      · exact Or.inl h
      · have hol : 0 < (s.read n).2.length := List.length_pos_iff.mpr ho
        exact Or.inr ⟨h, by rw [List.length_cons, List.length_append]; omega⟩

theorem FlatR.readToEnd_eq (s : FlatR) (acc : Bytes) (sched : List Nat) (hpos : ∀ n ∈ sched, 0 < n)
    (out : Bytes) (h : FlatR.readToEnd s acc sched = some out) : out = acc ++ s.slices.flatten := by
  rcases FlatR.readToEnd_spec sched hpos s acc with h1 | ⟨h0, _⟩
  · rw [h1] at h
    exact (Option.some.inj h).symm
  · rw [h0] at h
    cases h

end Pna
