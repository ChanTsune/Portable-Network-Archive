import PnaVerif.Model.Cli.PartName
/-! Multipart file names (`Model/Cli/PartName.lean`).  `lastDot`, `splitExt` and `withExtension` are computed on names
    given as `a ++ '.' :: b`.  What the properties rest on is `withExt_shape`: every output of `withExt` is `b.partN` or
    `b.partN.e` with `e` a `pna` extension (`Tail`), `b` and the tail not depending on `N`; on such names `withExt`
    renumbers (`withExt_marked`) and `removeExt` takes the marker out (`removeExt_marked_*`). -/
namespace Pna.Cli.PartName

theorem lastDot_eq_none_iff (s : Str) : lastDot s = none ↔ '.' ∉ s := by
  fun_induction lastDot s with
  | case1 => simp
  | case2 c cs i hi ih =>
    have : '.' ∈ cs := Classical.not_not.1 fun h => by simp [ih.2 h] at hi
    simp [this]
  | case3 cs h ih => simp
  | case4 c cs h hc ih => simpa [Ne.symm hc] using ih.1 h

theorem lastDot_append_dot (a b : Str) (hb : '.' ∉ b) : lastDot (a ++ '.' :: b) = some a.length := by
  induction a with
  | nil => simp [lastDot, (lastDot_eq_none_iff b).mpr hb]
  | cons c cs ih => simp [lastDot, ih]

theorem lastDot_some {s : Str} {i : Nat} (h : lastDot s = some i) :
    s = s.take i ++ '.' :: s.drop (i + 1) ∧ '.' ∉ s.drop (i + 1) ∧ i < s.length := by
  fun_induction lastDot s generalizing i with
  | case1 => cases h
  | case2 c cs j hj ih =>
    cases h
    obtain ⟨h1, h2, h3⟩ := ih hj
    exact ⟨by rw [List.take_succ_cons, List.cons_append, List.drop_succ_cons, ← h1], h2, Nat.succ_lt_succ h3⟩
  | case3 cs hn =>
    cases h
    simpa using (lastDot_eq_none_iff cs).mp hn
  | case4 => cases h

theorem splitExt_eq_none_iff (name : Str) :
    splitExt name = none ↔ name = [] ∨ name = ['.', '.'] := by
  unfold splitExt
  split
  · simp [*]
  · rename_i h
    simp only [h, iff_false]
    split <;> simp

/-- the forward computation: a non-empty stem, a dot, a dot-free extension (`".."` excepted) -/
theorem splitExt_append_dot (a b : Str) (ha : a ≠ []) (hb : '.' ∉ b) (h : a ≠ ['.'] ∨ b ≠ []) :
    splitExt (a ++ '.' :: b) = some (a, some b) := by
  obtain ⟨x, xs, rfl⟩ := List.exists_cons_of_ne_nil ha
  have hdd : ¬ (x :: xs ++ '.' :: b = [] ∨ x :: xs ++ '.' :: b = ['.', '.']) := by
    cases xs with
    | nil =>
      simp only [List.cons_append, List.nil_append, reduceCtorEq, List.cons.injEq, true_and, false_or]
      rintro ⟨rfl, rfl⟩
      simp at h
    | cons y ys => simp
  rw [splitExt, lastDot_append_dot _ b hb, if_neg hdd]
  simp [List.take_left']

theorem splitExt_some_ext {name stem e : Str} (h : splitExt name = some (stem, some e)) :
    name = stem ++ '.' :: e ∧ stem ≠ [] ∧ '.' ∉ e := by
  revert h
  fun_cases splitExt name <;> rintro ⟨⟩
  rename_i i hi h0
  obtain ⟨h1, h2, h3⟩ := lastDot_some h0
  refine ⟨h1, fun ht => ?_, h2⟩
  rcases List.take_eq_nil_iff.1 ht with rfl | rfl
  · exact hi rfl
  · cases h3

theorem splitExt_some_none {name stem : Str} (h : splitExt name = some (stem, none)) :
    stem = name := by
  revert h
  fun_cases splitExt name <;> rintro ⟨⟩ <;> rfl

theorem plain_iff (s : Str) :
    splitExt s = some (s, none) ↔ s ≠ [] ∧ s ≠ ['.', '.'] ∧ '.' ∉ s.tail := by
  cases s with
  | nil => simp [splitExt]
  | cons c cs =>
    cases hl : lastDot cs with
    | none =>
      have hd := (lastDot_eq_none_iff cs).mp hl
      by_cases hc : c = '.' <;> simp [splitExt, lastDot, hl, hc, hd]
    | some i =>
      have hd : '.' ∈ cs := Classical.byContradiction fun hn => by
        rw [(lastDot_eq_none_iff cs).mpr hn] at hl
        cases hl
      simp [splitExt, lastDot, hl, hd]

theorem plain_of_dotless (s : Str) (hne : s ≠ []) (hd : '.' ∉ s) : splitExt s = some (s, none) := by
  rw [plain_iff]
  refine ⟨hne, ?_, fun h => hd (List.mem_of_mem_tail h)⟩
  intro h
  rw [h] at hd
  simp at hd

/-- replacing an extension: the stem must not be `.` (then the copy `..` has no file stem) -/
theorem withExtension_ext (a b ext : Str) (ha : a ≠ []) (ha' : a ≠ ['.']) (hb : '.' ∉ b) :
    withExtension (a ++ '.' :: b) ext = a ++ '.' :: ext := by
  have h1 := splitExt_append_dot a b ha hb (Or.inl ha')
  have h2 := splitExt_append_dot a [] ha (by simp) (Or.inl ha')
  have ht : (a ++ '.' :: b).take ((a ++ '.' :: b).length - b.length) = a ++ ['.'] := by
    rw [show a ++ '.' :: b = (a ++ ['.']) ++ b by simp, List.length_append, Nat.add_sub_cancel,
      List.take_left]
  simp only [withExtension, h1, ht, h2]

theorem isDigit_of_mem_decimal {n : Nat} {c : Char} (h : c ∈ decimal n) : isDigit c = true := by
  have : isDigit c = c.isDigit := by simp [isDigit, Char.isDigit, Char.le_def]
  rw [this]
  exact Nat.isDigit_of_mem_toDigits (by decide) (by decide) h

/-- a left inverse of `decimal` -/
def fromDecimal (s : Str) : Nat := Nat.ofDigitChars 10 s 0

theorem fromDecimal_decimal (n : Nat) : fromDecimal (decimal n) = n :=
  Nat.ofDigitChars_ten_toDigits

theorem decimal_inj {n m : Nat} (h : decimal n = decimal m) : n = m := by
  rw [← fromDecimal_decimal n, ← fromDecimal_decimal m, h]

theorem not_mem_decimal_of_not_digit {n : Nat} {c : Char} (hc : isDigit c = false) :
    c ∉ decimal n := by
  intro h
  rw [isDigit_of_mem_decimal h] at hc
  cases hc

/-- the extension `partN` -/
abbrev partExt (n : Nat) : Str := partPrefix ++ decimal n

theorem dot_not_mem_partExt (n : Nat) : '.' ∉ partExt n := by
  have : '.' ∉ decimal n := not_mem_decimal_of_not_digit (by decide)
  simp [partExt, partPrefix, this]

theorem slash_not_mem_partExt (n : Nat) : '/' ∉ partExt n := by
  have : '/' ∉ decimal n := not_mem_decimal_of_not_digit (by decide)
  simp [partExt, partPrefix, this]

theorem isPartMarker_partExt (n : Nat) : isPartMarker (partExt n) = true := by
  have h0 : partPrefix.isPrefixOf (partExt n) = true := by simp [partExt, partPrefix, List.isPrefixOf]
  have h1 : (partExt n).drop 4 = decimal n := by simp [partExt, partPrefix]
  simp only [isPartMarker, h0, h1, Bool.true_and, Bool.and_eq_true,
    Bool.not_eq_true', List.all_eq_true]
  refine ⟨?_, fun c hc => isDigit_of_mem_decimal hc⟩
  cases h : decimal n with
  | nil => exact absurd h Nat.toDigits_ne_nil
  | cons _ _ => rfl

theorem partExt_inj {n m : Nat} (h : partExt n = partExt m) : n = m :=
  decimal_inj (List.append_cancel_left h)

theorem isPartMarker_prefix {e : Str} (h : isPartMarker e = true) :
    partPrefix.isPrefixOf e = true := by
  simp only [isPartMarker, Bool.and_eq_true] at h
  exact h.1.1

theorem dot_not_mem_of_pna {e : Str} (h : e.map lower = ['p', 'n', 'a']) : '.' ∉ e := by
  intro hd
  have : lower '.' ∈ e.map lower := List.mem_map_of_mem hd
  rw [h] at this
  revert this
  decide

/-- the name (or stem) already carries a part marker: its extension is `part` + digits -/
def Numbered (stem : Str) : Prop :=
  match splitExt stem with
  | some (_, some e2) => isPartMarker e2 = true
  | _ => False

/-- the name (or stem) does not end in an extension beginning with `part` -/
def NotMarked (stem : Str) : Prop :=
  match splitExt stem with
  | some (_, some e2) => ¬ partPrefix.isPrefixOf e2
  | _ => True

/-- the name has an extension that is `pna` up to ASCII case -/
def PnaExt (name : Str) : Prop :=
  match splitExt name with
  | some (_, some e) => e.map lower = ['p', 'n', 'a']
  | _ => False

/-- The names on which renumbering is consistent: every name, since `withExt` appends to a foreign extension
    (`C15Part.withExt_renumber`). -/
def Good (_name : Str) : Prop := True

instance : DecidablePred Numbered := fun stem => by
  unfold Numbered
  split <;> infer_instance

instance : DecidablePred NotMarked := fun stem => by
  unfold NotMarked
  split <;> infer_instance

instance : DecidablePred PnaExt := fun name => by
  unfold PnaExt
  split <;> infer_instance

instance : DecidablePred Good := fun _ => inferInstanceAs (Decidable True)

theorem numbered_iff {s : Str} :
    Numbered s ↔ ∃ b e, splitExt s = some (b, some e) ∧ isPartMarker e = true := by
  unfold Numbered
  split
  · rename_i b e h
    rw [h]
    exact ⟨fun hm => ⟨b, e, rfl, hm⟩, fun ⟨_, _, h', hm⟩ => by cases h'; exact hm⟩
  · rename_i h
    exact ⟨False.elim, fun ⟨b, e, hs, _⟩ => h b e hs⟩

theorem not_numbered_of_notMarked {stem : Str} (h : NotMarked stem) : ¬ Numbered stem := by
  intro hm
  obtain ⟨b, e, hs, he⟩ := numbered_iff.mp hm
  simp only [NotMarked, hs] at h
  exact h (isPartMarker_prefix he)

/-- a `pna` extension has three characters, a part marker at least five -/
theorem not_marker_of_pna {e : Str} (h : e.map lower = ['p', 'n', 'a']) : isPartMarker e = false := by
  have hl : e.length = 3 := by simpa using congrArg List.length h
  have hd : e.drop 4 = [] := List.drop_eq_nil_of_le (by omega)
  simp [isPartMarker, hd]

theorem withExt_append {name : Str} (n : Nat) (hs : splitExt name ≠ none) (hn : ¬ PnaExt name)
    (hm : ¬ Numbered name) : withExt name n = some (name ++ '.' :: partExt n) := by
  unfold PnaExt at hn
  unfold Numbered at hm
  unfold withExt
  split
  · contradiction
  · simp
  · simp_all

theorem withExt_replace {name stem e : Str} (n : Nat) (h : splitExt name = some (stem, some e))
    (hm : isPartMarker e = true) : withExt name n = some (stem ++ '.' :: partExt n) := by
  have he : e.map lower ≠ ['p', 'n', 'a'] := fun he => by simp [not_marker_of_pna he] at hm
  simp [withExt, h, he, hm]

theorem withExt_pna_numbered {name stem e base e2 : Str} (n : Nat)
    (h : splitExt name = some (stem, some e)) (he : e.map lower = ['p', 'n', 'a'])
    (hs : splitExt stem = some (base, some e2)) (hm : isPartMarker e2 = true) :
    withExt name n = some (base ++ '.' :: (partExt n ++ '.' :: e)) := by
  simp [withExt, h, he, hs, hm]

theorem withExt_pna_unnumbered {name stem e : Str} (n : Nat)
    (h : splitExt name = some (stem, some e)) (he : e.map lower = ['p', 'n', 'a'])
    (hm : ¬ Numbered stem) :
    withExt name n = some (stem ++ '.' :: (partExt n ++ '.' :: e)) := by
  unfold Numbered at hm
  simp only [withExt, h, he, if_true]
  cases hs : splitExt stem with
  | none => simp
  | some p =>
    obtain ⟨b, x⟩ := p
    cases x with
    | none => simp
    | some e2 =>
      simp only [hs] at hm
      simp [hm]

/-- what follows the marker of a part name: nothing, or a `pna` extension with its dot -/
def Tail (s : Str) : Prop := s = [] ∨ ∃ e, s = '.' :: e ∧ e.map lower = ['p', 'n', 'a']

theorem splitExt_marked (b : Str) (hb : b ≠ []) (n : Nat) :
    splitExt (b ++ '.' :: partExt n) = some (b, some (partExt n)) :=
  splitExt_append_dot b (partExt n) hb (dot_not_mem_partExt n) (Or.inr (by simp [partExt, partPrefix]))

theorem splitExt_marked_pna (b e : Str) (he : e.map lower = ['p', 'n', 'a'])
    (n : Nat) :
    splitExt (b ++ '.' :: (partExt n ++ '.' :: e)) = some (b ++ '.' :: partExt n, some e) := by
  rw [show b ++ '.' :: (partExt n ++ '.' :: e) = (b ++ '.' :: partExt n) ++ '.' :: e by simp]
  exact splitExt_append_dot (b ++ '.' :: partExt n) e (by simp) (dot_not_mem_of_pna he)
    (Or.inr fun h0 => by simp [h0] at he)

/-- renumbering a part name `b.partN` or `b.partN.pna` -/
theorem withExt_marked {b s : Str} (hb : b ≠ []) (hs : Tail s) (n m : Nat) :
    withExt (b ++ '.' :: (partExt n ++ s)) m = some (b ++ '.' :: (partExt m ++ s)) := by
  rcases hs with rfl | ⟨e, rfl, he⟩
  · simpa using withExt_replace m (splitExt_marked b hb n) (isPartMarker_partExt n)
  · exact withExt_pna_numbered m (splitExt_marked_pna b e he n) he (splitExt_marked b hb n)
      (isPartMarker_partExt n)

/-- Every name with a file name is numbered as `b.partN` or `b.partN.e` (`e` a `pna` extension) with
    `b` non-empty; `b` and the tail do not depend on `n` and are made of characters of the name. -/
theorem withExt_shape {name : Str} (hs : splitExt name ≠ none) :
    ∃ b s, b ≠ [] ∧ Tail s ∧ (∀ c ∈ b ++ s, c ∈ name) ∧
      ∀ n, withExt name n = some (b ++ '.' :: (partExt n ++ s)) := by
  have hne : name ≠ [] := fun h0 => hs ((splitExt_eq_none_iff name).mpr (Or.inl h0))
  by_cases hp : PnaExt name
  · unfold PnaExt at hp
    split at hp
    · rename_i stem e h
      obtain ⟨rfl, hstem, _⟩ := splitExt_some_ext h
      by_cases hm : Numbered stem
      · obtain ⟨base, e2, hs2, hm2⟩ := numbered_iff.mp hm
        obtain ⟨rfl, hbase, _⟩ := splitExt_some_ext hs2
        exact ⟨base, '.' :: e, hbase, .inr ⟨e, rfl, hp⟩, by simp +contextual [or_imp],
          fun n => withExt_pna_numbered n h hp hs2 hm2⟩
      · exact ⟨stem, '.' :: e, hstem, .inr ⟨e, rfl, hp⟩, fun _ => id,
          fun n => withExt_pna_unnumbered n h hp hm⟩
    · exact hp.elim
  · by_cases hm : Numbered name
    · obtain ⟨stem, e, h, hm2⟩ := numbered_iff.mp hm
      obtain ⟨rfl, hstem, _⟩ := splitExt_some_ext h
      exact ⟨stem, [], hstem, .inl rfl, by simp +contextual,
        fun n => by simpa using withExt_replace n h hm2⟩
    · exact ⟨name, [], hne, .inl rfl, by simp, fun n => by simpa using withExt_append n hs hp hm⟩

theorem splitExt_ne_none_of_withExt {name w : Str} {n : Nat} (h : withExt name n = some w) :
    splitExt name ≠ none := by
  intro hs
  simp [withExt, hs] at h

theorem removeExt_marked_plain (b : Str) (hb : b ≠ []) (n : Nat) :
    removeExt (b ++ '.' :: partExt n) = some b := by
  simp only [removeExt, splitExt_marked b hb n, isPartMarker_partExt, if_true]

/-- `b.partN.pna` gives back `b.pna`, unless `b` is `.` -/
theorem removeExt_marked_pna (b e : Str) (hb : b ≠ []) (hb' : b ≠ ['.'])
    (he : e.map lower = ['p', 'n', 'a']) (n : Nat) :
    removeExt (b ++ '.' :: (partExt n ++ '.' :: e)) = some (b ++ '.' :: e) := by
  have hw := withExtension_ext b (partExt n) e hb hb' (dot_not_mem_partExt n)
  unfold removeExt
  rw [splitExt_marked_pna b e he n]
  simp only [not_marker_of_pna he, splitExt_marked b hb n, isPartMarker_partExt n, if_true, hw]
  simp

theorem mem_withExt {name w : Str} {n : Nat} {c : Char} (h : withExt name n = some w)
    (hc : c ∈ w) : c ∈ name ∨ c = '.' ∨ c ∈ partExt n := by
  obtain ⟨b, s, _, _, hmem, hw⟩ := withExt_shape (splitExt_ne_none_of_withExt h)
  rw [hw n] at h
  cases h
  simp only [List.mem_append, List.mem_cons] at hc hmem ⊢
  rcases hc with hc | hc | hc | hc
  · exact .inl (hmem c (.inl hc))
  · exact .inr (.inl hc)
  · exact .inr (.inr hc)
  · exact .inl (hmem c (.inr hc))

/-- a directory prefix of a simple path: empty, or ending with the separator -/
def DirPrefix (dir : Str) : Prop := dir = [] ∨ dir.getLast? = some '/'

instance : DecidablePred DirPrefix := fun _ => inferInstanceAs (Decidable (_ ∨ _))

end Pna.Cli.PartName
