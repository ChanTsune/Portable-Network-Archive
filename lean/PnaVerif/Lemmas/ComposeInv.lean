import PnaVerif.Lemmas.ComposeFresh
/-!
# C02 composition: the invariant of the extraction loop over the entries `create` archives, and from
the invariant to `expectedTree`
-/
namespace Pna.Compose
open Pna Pna.Fs Pna.Cli Pna.Confined

/-- the invariant: `A` are the source nodes whose entries have been extracted so far -/
structure Inv (O : Path) (F : Nat) (fs : Fs) (A : List TNode) : Prop where
  sane : Sane fs O
  fuel : F ≤ fuelFor fs
  pres : ∀ n ∈ A, nodeIs fs (O ++ pcs n) n.kind n.content
  /-- nothing below `O` but the extracted nodes and what lies above them (for `fresh_of_inv`, `inv_nothing_else`) -/
  only : ∀ w, w ≠ [] → fs.lookup (O ++ w) ≠ none → ∃ n ∈ A, w <+: pcs n
  /-- no file inode is reachable under two paths below `O` (for `inv_files_distinct`) -/
  uniq : ∀ w w' i, fs.lookup (O ++ w) = some (.file i) → fs.lookup (O ++ w') = some (.file i) → w = w'

theorem inv_init {fs : Fs} {O : Path} (h : EmptyOut fs O) : Inv O (fuelFor fs) fs [] := by
  have nil : ∀ {w i}, fs.lookup (O ++ w) = some (.file i) → w = [] := by
    intro w i h1
    by_cases e : w = []
    · exact e
    · rw [emptyOut_none h w e] at h1; cases h1
  exact ⟨h.1, Nat.le_refl _, fun n hn => (by cases hn), fun w hw hl => absurd (emptyOut_none h w hw) hl,
    fun w w' i h1 h2 => by rw [nil h1, nil h2]⟩

/-- the destination of the next node `n` is fresh.  What exists below `O` is a prefix of an extracted node's path
    (`Inv.only`), and extracted nodes stand before `n`; by `TreeOK.split` their paths differ from `n`'s and a
    directory stands before what lies beneath it: nothing is at `pcs n`.  What is at a proper prefix of `pcs n` is an
    extracted directory node (`TreeOK.anc_dir`, `Inv.pres`) or lies above an extracted node (`anc_dir`, `fs` is sane). -/
theorem fresh_of_inv {t pre post : List TNode} {n : TNode} {O : Path} {F : Nat} {fs : Fs} {A : List TNode}
    (hT : TreeOK t) (he : t = pre ++ n :: post) (hA : ∀ m ∈ A, m ∈ pre) (hinv : Inv O F fs A) :
    Fresh fs O (pcs n) := by
  have hn : n ∈ t := by rw [he]; simp
  have hpre : ∀ m ∈ pre, m ∈ t := fun m hm => by rw [he]; simp [hm]
  obtain ⟨hnopath, _⟩ := hT.split he
  have hne : pcs n ≠ [] := splitSlash_ne_nil _
  have hno : ∀ m ∈ pre, pcs m ≠ pcs n := fun m hm e =>
    hnopath m hm (congrArg TNode.path (hT.pcs_inj (hpre m hm) hn e))
  have hfree : fs.lookup (O ++ pcs n) = none := by
    cases hl : fs.lookup (O ++ pcs n) with
    | none => rfl
    | some x =>
      exfalso
      obtain ⟨m, hmA, hqm⟩ := hinv.only (pcs n) hne (by rw [hl]; simp)
      have hmp := hA m hmA
      by_cases e : pcs n = pcs m
      · exact hno m hmp e.symm
      · -- `m` lies beneath the path of `n`: the directory node at that path stands before `m`
        obtain ⟨s, r, hsr⟩ := List.append_of_mem hmp
        have he2 : t = s ++ m :: (r ++ n :: post) := by rw [he, hsr]; simp
        obtain ⟨m', hm's, _, hp⟩ := (hT.split he2).2 (pcs n) ⟨hne, hqm, e⟩
        exact hno m' (by rw [hsr]; simp [hm's]) hp
  refine ⟨fun q hq0 hqc => ?_, hfree⟩
  by_cases eq : q = pcs n
  · rw [eq]; exact Or.inl hfree
  · have hq : PProper q (pcs n) := ⟨hq0, hqc, eq⟩
    cases hl : fs.lookup (O ++ q) with
    | none => exact Or.inl rfl
    | some x =>
      right
      obtain ⟨m, hmA, hqm⟩ := hinv.only q hq.1 (by rw [hl]; simp)
      have hmt := hpre m (hA m hmA)
      have hpm := hinv.pres m hmA
      by_cases e : q = pcs m
      · obtain ⟨m', hm't, hk, hp⟩ := hT.anc_dir hn hq
        have : m' = m := hT.pcs_inj hm't hmt (by rw [hp, e])
        subst this
        rw [hk] at hpm
        rw [← hl, e]; exact hpm
      · have := anc_dir hinv.sane.closed (nodeIs_isSome hpm) ((List.prefix_append_right_inj O).2 hqm)
          (fun e' => e (List.append_cancel_left e'))
        rw [← hl]; exact this

theorem inv_step {t pre post : List TNode} {n : TNode} {cwd : Path} {outDir d : Bytes} {F : Nat} {fs : Fs}
    {A : List TNode} (ho : OutDir outDir d) (hT : TreeOK t) (he : t = pre ++ n :: post) (hA : ∀ m ∈ A, m ∈ pre)
    (hinv : Inv (cwd ++ [d]) F fs A) (hdepth : (pcs n).length + 2 ≤ F) :
    ∃ fs', extractEntry false cwd outDir fs (toX n) = (fs', none) ∧ Inv (cwd ++ [d]) F fs' (A ++ [n]) := by
  have hn : n ∈ t := by rw [he]; simp
  have hc := hT.clean hn
  obtain ⟨fs', heq, hp', hg', hni, hnew⟩ := extractEntry_fresh ho hinv.sane n hc (hT.kind hn)
    (fresh_of_inv hT he hA hinv) (Nat.le_trans hdepth hinv.fuel)
  -- sane by the confinement theorem: a clean name has no `..`
  have s' : Sane fs' (cwd ++ [d]) := by
    have hdd : [dot, dot] ∉ comps (toX n).name := by
      show [dot, dot] ∉ comps (sanitize n.path)
      rw [hc.san, hc.comps]
      exact hc.nodd
    have := (extractEntry_goodW false cwd outDir d fs (toX n) ho hinv.sane ⟨hdd, Or.inr rfl⟩).1
    rwa [heq] at this
  have key : ∀ w i, fs'.lookup (cwd ++ [d] ++ w) = some (.file i) →
      fs.lookup (cwd ++ [d] ++ w) = some (.file i) ∨ (w = pcs n ∧ fs.nextIno ≤ i) := by
    intro w i hw
    rcases hg'.files _ i hw with h | h
    · exact Or.inl h
    · cases hl : fs.lookup (cwd ++ [d] ++ w) with
      | some x =>
        left
        have := hp'.1 _ x (by simp) hl
        rw [hw] at this; rw [this]
      | none =>
        -- a new object stands at a prefix of `pcs n`; at a proper prefix it is a directory by `anc_dir`, no file
        right
        obtain ⟨q, _, hq2, hq3⟩ := (hnew _ (by rw [hw]; simp)).resolve_left (by rw [hl]; simp)
        have := List.append_cancel_left hq3; subst this
        refine ⟨?_, h⟩
        by_cases hne : w = pcs n
        · exact hne
        have := anc_dir s'.closed (nodeIs_isSome hni) ((List.prefix_append_right_inj _).2 hq2)
          (fun e => hne (List.append_cancel_left e))
        rw [this] at hw; cases hw
  refine ⟨fs', heq, s', ?_, ?_, ?_, ?_⟩
  · -- fuel
    have := hg'.len; have := hinv.fuel; unfold fuelFor at *; omega
  · -- pres
    intro m hm
    rcases List.mem_append.1 hm with h | h
    · exact nodeIs_preserved hp' (by simp) (hinv.pres m h)
    · simp at h; subst h; exact hni
  · -- only
    intro w hw hl
    rcases hnew _ hl with h | ⟨q, _, hq, hq3⟩
    · obtain ⟨m, hm, hwm⟩ := hinv.only w hw h
      exact ⟨m, List.mem_append_left _ hm, hwm⟩
    · have := List.append_cancel_left hq3; subst this
      exact ⟨n, by simp, hq⟩
  · -- uniq: a file of `fs'` is one of `fs` or the new one at `pcs n` (`key`); the new inode is no old one
    intro w w' i h1 h2
    have old_lt : ∀ w, fs.lookup (cwd ++ [d] ++ w) = some (.file i) → i < fs.nextIno := fun w h =>
      hinv.sane.fresh (_, .file i) (lookup_mem (lookup_file_ne_nil h) h) i rfl
    rcases key w i h1 with a | ⟨a, a'⟩ <;> rcases key w' i h2 with b | ⟨b, b'⟩
    · exact hinv.uniq w w' i a b
    · exact absurd (old_lt w a) (by omega)
    · exact absurd (old_lt w' b) (by omega)
    · rw [a, b]

/-- the first phase of `extractAllWith` over the entries of a well-formed tree: `pre` are the archived
    nodes done so far -/
theorem scan_inv {t : List TNode} {cwd : Path} {outDir d : Bytes} {F : Nat} (o : CXOpts) (ho : OutDir outDir d)
    (hT : TreeOK t) (hD : ∀ n ∈ t, (pcs n).length + 2 ≤ F) :
    ∀ (post pre : List TNode) (fs : Fs), archived o t = pre ++ post → Inv (cwd ++ [d]) F fs pre →
    ∃ fs', extractAllWith.scan (extractEntry false cwd outDir) fs none (post.map toX) = (fs', none) ∧
      Inv (cwd ++ [d]) F fs' (archived o t) := by
  intro post
  induction post with
  | nil =>
    intro pre fs he hinv
    rw [List.append_nil] at he
    rw [he]
    exact ⟨fs, by simp [extractAllWith.scan], hinv⟩
  | cons n post ih =>
    intro pre fs he hinv
    -- where `n` stands in the tree: everything archived so far stands before it
    obtain ⟨l₁, l₂, ht, h1, h2⟩ := List.filter_eq_append_iff.1 he
    obtain ⟨l₃, l₄, h3, _, _, _⟩ := List.filter_eq_cons_iff.1 h2
    have het : t = (l₁ ++ l₃) ++ n :: l₄ := by rw [ht, h3]; simp
    obtain ⟨fs1, e1, inv1⟩ := inv_step ho hT het
      (fun m hm => List.mem_append_left _ (List.mem_filter.1 (h1 ▸ hm)).1) hinv (hD n (by rw [het]; simp))
    obtain ⟨fs', e2, inv2⟩ := ih (pre ++ [n]) fs1 (by rw [he]; simp) inv1
    refine ⟨fs', ?_, inv2⟩
    rw [List.map_cons]
    unfold extractAllWith.scan
    simp only [e1]
    exact e2

theorem extractAll_compose {fs : Fs} {cwd : Path} {outDir d : Bytes} {t : List TNode} (o : CXOpts)
    (ho : OutDir outDir d) (hE : EmptyOut fs (cwd ++ [d])) (hT : TreeOK t) (hD : DepthOK fs t) :
    ∃ fs', extractAll false cwd outDir fs (entriesOf o t) = (fs', none) ∧
      Inv (cwd ++ [d]) (fuelFor fs) fs' (archived o t) := by
  obtain ⟨fs', hscan, hinv⟩ := scan_inv (cwd := cwd) o ho hT hD (archived o t) [] fs rfl (inv_init hE)
  refine ⟨fs', ?_, hinv⟩
  have hkind : ∀ e ∈ (archived o t).map toX, e.kind ≤ 2 := by
    intro e he
    obtain ⟨m, hm, rfl⟩ := List.mem_map.1 he
    exact hT.kind (List.mem_filter.1 hm).1
  have hf1 : ((archived o t).map toX).filter (·.kind ≠ 3) = (archived o t).map toX := by
    apply List.filter_eq_self.2
    intro e he
    have := hkind e he
    simp only [decide_eq_true_eq]; omega
  have hf2 : ((archived o t).map toX).filter (·.kind = 3) = [] := by
    apply List.filter_eq_nil_iff.2
    intro e he
    have := hkind e he
    simp only [decide_eq_true_eq]; omega
  unfold extractAll extractAllWith entriesOf
  rw [hf1, hf2, hscan]
  rfl

section
variable {O : Path} {F : Nat} {fs : Fs} {o : CXOpts} {t : List TNode}

theorem archived_mem {n : TNode} (h : n ∈ archived o t) : n ∈ t := (C02.mem_archived.1 h).1

theorem inv_complete (hT : TreeOK t) (hinv : Inv O F fs (archived o t)) :
    ∀ x ∈ expectedTree o t, objAt fs O x := by
  intro x hx
  unfold expectedTree at hx
  rcases List.mem_append.1 hx with hx | hx
  · obtain ⟨n, hn, rfl⟩ := List.mem_map.1 hx
    have hc := hT.clean (archived_mem hn)
    have hp := hinv.pres n hn
    unfold objAt
    rw [C02.restoredNode_path, hc.san]
    show nodeIs fs (O ++ pcs n) n.kind (if n.kind = 1 then [] else n.content)
    by_cases h : n.kind = 1
    · rw [h] at hp ⊢; exact hp
    · rw [if_neg h]; exact hp
  · obtain ⟨hx1, ⟨y, hy, hanc⟩, _⟩ := (C02.mem_impliedDirs _ x).1 hx
    obtain ⟨n, hn, rfl⟩ := List.mem_map.1 hy
    have hc := hT.clean (archived_mem hn)
    rw [C02.restoredNode_path, hc.san] at hanc
    obtain ⟨q, hq, hqa⟩ := (mem_ancestors _ _).1 hanc
    have hsp : splitSlash x.path = q := by rw [hqa, hq.split_join hc]
    unfold objAt
    rw [hsp, hx1]
    show fs.lookup (O ++ q) = some .dir
    exact anc_dir hinv.sane.closed (nodeIs_isSome (hinv.pres n hn)) ((List.prefix_append_right_inj O).2 hq.2.1)
      (fun e => hq.2.2 (List.append_cancel_left e))

theorem inv_nothing_else (hT : TreeOK t) (hinv : Inv O F fs (archived o t)) :
    ∀ p, Inside O p → p ≠ O → fs.lookup p ≠ none → ∃ x ∈ expectedTree o t, p = O ++ splitSlash x.path := by
  intro p hin hne hl
  obtain ⟨w, rfl⟩ := hin
  have hw : w ≠ [] := by intro e; rw [e, List.append_nil] at hne; exact hne rfl
  obtain ⟨n, hn, hwn⟩ := hinv.only w hw hl
  have hc := hT.clean (archived_mem hn)
  have hmem : restoredNode o n ∈ (archived o t).map (restoredNode o) := List.mem_map.2 ⟨n, hn, rfl⟩
  by_cases e : w = pcs n
  · refine ⟨restoredNode o n, ?_, by rw [C02.restoredNode_path, hc.san, e]⟩
    unfold expectedTree
    exact List.mem_append_left _ hmem
  · have hq : PProper w (pcs n) := ⟨hw, hwn, e⟩
    have hsp : splitSlash (joinSlash w) = w := hq.split_join hc
    have hanc : joinSlash w ∈ ancestors (restoredNode o n).path := by
      rw [C02.restoredNode_path, hc.san]; exact (mem_ancestors _ _).2 ⟨w, hq, rfl⟩
    by_cases hx : ∃ y ∈ (archived o t).map (restoredNode o), y.path = joinSlash w
    · obtain ⟨y, hy, hyp⟩ := hx
      refine ⟨y, ?_, by rw [hyp, hsp]⟩
      unfold expectedTree
      exact List.mem_append_left _ hy
    · refine ⟨⟨joinSlash w, 1, [], none, none⟩, ?_, by rw [hsp]⟩
      unfold expectedTree
      apply List.mem_append_right
      exact (C02.mem_impliedDirs _ _).2 ⟨rfl, ⟨_, hmem, hanc⟩, fun y hy hyp => hx ⟨y, hy, hyp⟩⟩

/-- distinct regular files of the result have distinct inodes (no accidental sharing of content) -/
theorem inv_files_distinct (hT : TreeOK t) (hinv : Inv O F fs (archived o t)) :
    ∀ x ∈ expectedTree o t, ∀ y ∈ expectedTree o t, x.kind = 0 → y.kind = 0 → x.path ≠ y.path →
    ∀ i j, fs.lookup (O ++ splitSlash x.path) = some (.file i) → fs.lookup (O ++ splitSlash y.path) = some (.file j) →
      i ≠ j := by
  have hclean : ∀ x ∈ expectedTree o t, x.kind = 0 → Clean x.path := by
    intro x hx hk
    unfold expectedTree at hx
    rcases List.mem_append.1 hx with hx | hx
    · obtain ⟨n, hn, rfl⟩ := List.mem_map.1 hx
      have hc := hT.clean (archived_mem hn)
      rw [C02.restoredNode_path, hc.san]; exact hc
    · have := ((C02.mem_impliedDirs _ x).1 hx).1
      rw [this] at hk; cases hk
  intro x hx y hy hkx hky hne i j hi hj e
  subst e
  have := hinv.uniq _ _ i hi hj
  apply hne
  rw [← (hclean x hx hkx).join, ← (hclean y hy hky).join, this]

end

end Pna.Compose
