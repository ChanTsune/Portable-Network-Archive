import PnaVerif.Lemmas.Fs
import PnaVerif.Lemmas.ListFacts
/-!
# Confinement of `extract_entry` (C09 part 2): the invariant and the elementary updates that keep it

`O` is the output directory as an absolute component path (`cwd ++ [d]`).
* `Inside O p`      — `p` is `O` or below it.
* `Sane fs O`       — well-formedness of the file system, an invariant of `extractEntry`.
* `OutsideSame O fs fs'` — nothing outside `O` differs between `fs` and `fs'`; `Step` is its part that composes.
* `LexOk fs O w cs` — the lexical walk of `cs` below `O` meets no symbolic link; `Mono` (no new link) keeps it.
* a new entry, a rewritten inode, removed entries strictly inside `O` keep `Sane` and are a `Step`.
* `nodd` in a name, `hdd` for the hypothesis — no `..` component: `[dot, dot] ∉ cs`.
-/
namespace Pna.Confined
open Pna Pna.Fs Pna.Cli

def Inside (O p : Path) : Prop := O <+: p

instance (O p : Path) : Decidable (Inside O p) := inferInstanceAs (Decidable (O <+: p))

/-- the filter used for "nodes outside the output directory" -/
abbrev outB (O : Path) (n : Path × Node) : Bool := !(O.isPrefixOf n.1)

theorem outB_iff (O : Path) (n : Path × Node) : outB O n = true ↔ ¬ Inside O n.1 := by
  unfold outB Inside
  rw [← List.isPrefixOf_iff_prefix]
  cases List.isPrefixOf O n.1 <;> simp

/-- the field `closed` of `Sane`, for the lemmas that need nothing else of it -/
abbrev Closed (fs : Fs) : Prop := ∀ n ∈ fs.nodes, fs.lookup n.1.dropLast = some .dir

/-- Well-formedness.  `sep` excludes initial states in which an inode is linked both inside and
    outside `O` (there, truncating an existing inside file would change an outside file). -/
structure Sane (fs : Fs) (O : Path) : Prop where
  odir : fs.lookup O = some .dir
  closed : ∀ n ∈ fs.nodes, fs.lookup n.1.dropLast = some .dir
  sep : ∀ a ∈ fs.nodes, ∀ b ∈ fs.nodes, ∀ ino, a.2 = .file ino → b.2 = .file ino →
    Inside O a.1 → ¬ Inside O b.1 → False
  fresh : ∀ n ∈ fs.nodes, ∀ ino, n.2 = .file ino → ino < fs.nextIno

/-- Boolean version of `Sane` (for `decide +kernel` on concrete file systems). -/
def saneB (fs : Fs) (O : Path) : Bool :=
  (fs.lookup O == some .dir) &&
  fs.nodes.all (fun n => fs.lookup n.1.dropLast == some .dir) &&
  fs.nodes.all (fun a => fs.nodes.all (fun b =>
    match a.2, b.2 with
    | .file i, .file j => !(i == j && O.isPrefixOf a.1 && !(O.isPrefixOf b.1))
    | _, _ => true)) &&
  fs.nodes.all (fun n => match n.2 with | .file i => decide (i < fs.nextIno) | _ => true)

/-- Nothing outside `O` differs: the outside directory entries are literally the same list, the inodes
    they reference keep their content and (`nolink`) get no name inside `O`, so that their link counts
    are the same (`links_same`). -/
structure OutsideSame (O : Path) (fs fs' : Fs) : Prop where
  nodes : fs'.nodes.filter (outB O) = fs.nodes.filter (outB O)
  content : ∀ n ∈ fs.nodes, ¬ Inside O n.1 → ∀ ino, n.2 = .file ino → fs'.content ino = fs.content ino
  nolink : ∀ n ∈ fs.nodes, ¬ Inside O n.1 → ∀ ino, n.2 = .file ino →
    ∀ m ∈ fs'.nodes, Inside O m.1 → m.2 ≠ .file ino

theorem outside_mem_iff {O : Path} {fs fs' : Fs} (h : fs'.nodes.filter (outB O) = fs.nodes.filter (outB O))
    (n : Path × Node) (hn : ¬ Inside O n.1) : n ∈ fs'.nodes ↔ n ∈ fs.nodes := by
  have h1 : n ∈ fs'.nodes.filter (outB O) ↔ n ∈ fs.nodes.filter (outB O) := by rw [h]
  simpa [List.mem_filter, (outB_iff O n).2 hn] using h1

/-- the fields of `OutsideSame` that compose (`Step.trans`); `nolink` comes back from `Sane fs'`
    (`Step.outsideSame`) -/
structure Step (O : Path) (fs fs' : Fs) : Prop where
  nodes : fs'.nodes.filter (outB O) = fs.nodes.filter (outB O)
  content : ∀ n ∈ fs.nodes, ¬ Inside O n.1 → ∀ ino, n.2 = .file ino → fs'.content ino = fs.content ino

theorem Step.refl (O : Path) (fs : Fs) : Step O fs fs := ⟨rfl, fun _ _ _ _ _ => rfl⟩

theorem Step.trans {O : Path} {a b c : Fs} (h1 : Step O a b) (h2 : Step O b c) : Step O a c := by
  refine ⟨h2.nodes.trans h1.nodes, fun n hn ho ino hi => ?_⟩
  have hb : n ∈ b.nodes := (outside_mem_iff h1.nodes n ho).2 hn
  rw [h2.content n hb ho ino hi, h1.content n hn ho ino hi]

theorem Step.outsideSame {O : Path} {fs fs' : Fs} (h : Step O fs fs') (hs : Sane fs' O) : OutsideSame O fs fs' :=
  ⟨h.nodes, h.content, fun n hn ho ino hi m hm hmi hm2 =>
    hs.sep m hm n ((outside_mem_iff h.nodes n ho).2 hn) ino hm2 hi hmi ho⟩

theorem OutsideSame.step {O : Path} {fs fs' : Fs} (h : OutsideSame O fs fs') : Step O fs fs' := ⟨h.nodes, h.content⟩

theorem OutsideSame.refl (O : Path) (fs : Fs) (hs : Sane fs O) : OutsideSame O fs fs :=
  (Step.refl O fs).outsideSame hs

theorem OutsideSame.trans {O : Path} {a b c : Fs} (h1 : OutsideSame O a b) (h2 : OutsideSame O b c) :
    OutsideSame O a c :=
  have st := h1.step.trans h2.step
  ⟨st.nodes, st.content, fun n hn ho => h2.nolink n ((outside_mem_iff h1.nodes n ho).2 hn) ho⟩

/-- the relation carried through `step_rel` and `extractAllWith_rel` -/
def Keeps (O : Path) (a b : Fs) : Prop := Sane a O → Sane b O ∧ Step O a b

theorem Keeps.refl (O : Path) (a : Fs) : Keeps O a a := fun h => ⟨h, Step.refl _ _⟩

theorem Keeps.trans {O : Path} {a b c : Fs} (h1 : Keeps O a b) (h2 : Keeps O b c) : Keeps O a c :=
  fun hs => ⟨(h2 (h1 hs).1).1, (h1 hs).2.trans (h2 (h1 hs).1).2⟩

theorem sane_of_saneB {fs : Fs} {O : Path} (h : saneB fs O = true) : Sane fs O := by
  unfold saneB at h
  simp only [Bool.and_eq_true, List.all_eq_true, beq_iff_eq] at h
  obtain ⟨⟨⟨h1, h2⟩, h3⟩, h4⟩ := h
  refine ⟨h1, h2, fun a ha b hb ino hai hbi hia hob => ?_, fun n hn ino hi => ?_⟩
  · have := h3 a ha b hb
    rw [hai, hbi] at this
    have e1 : O.isPrefixOf a.1 = true := List.isPrefixOf_iff_prefix.2 hia
    have e2 : (!(O.isPrefixOf b.1)) = true := (outB_iff O b).2 hob
    simp [e1, e2] at this
  · have := h4 n hn
    rw [hi] at this
    simpa using this

theorem OutsideSame.lookup {O : Path} {fs fs' : Fs} (h : OutsideSame O fs fs') (p : Path) (hp : ¬ Inside O p) :
    fs'.lookup p = fs.lookup p := by
  have key := find?_filter_key (key := (·.1)) (k := p) fun x hx => (outB_iff O x).2 (hx ▸ hp)
  unfold Fs.lookup
  by_cases hn : p = []
  · simp [hn]
  · simp only [hn, if_false]
    rw [← key fs'.nodes, ← key fs.nodes, h.nodes]

/-- the link count of an inode referenced from outside `O` is unchanged -/
theorem OutsideSame.links_same {O : Path} {fs fs' : Fs} (h : OutsideSame O fs fs') (hs : Sane fs O)
    (n : Path × Node) (hn : n ∈ fs.nodes) (ho : ¬ Inside O n.1) (ino : Nat) (hi : n.2 = .file ino) :
    fs'.nodes.filter (·.2 == .file ino) = fs.nodes.filter (·.2 == .file ino) := by
  rw [← filter_filter_of_imp fs'.nodes (outB O) _ (fun x hx hp => (outB_iff O x).2 fun hin =>
      h.nolink n hn ho ino hi x hx hin (by simpa using hp)),
    ← filter_filter_of_imp fs.nodes (outB O) _ (fun x hx hp => (outB_iff O x).2 fun hin =>
      hs.sep x hx n hn ino (by simpa using hp) hi hin ho),
    h.nodes]

/-- above an object that exists there are only directories: every proper prefix of its path is one -/
theorem anc_dir {fs : Fs} (hc : Closed fs) {p q : Path} (hs : (fs.lookup p).isSome) (hq : q <+: p) (hne : q ≠ p) :
    fs.lookup q = some .dir := by
  induction hk : p.length generalizing p with
  | zero =>
    rw [List.length_eq_zero_iff.1 hk] at hq hne
    exact absurd (List.prefix_nil.1 hq) hne
  | succ k ih =>
    have hp : p ≠ [] := by intro e; subst e; simp at hk
    obtain ⟨n, hl⟩ := Option.isSome_iff_exists.1 hs
    have hd := hc (p, n) (lookup_mem hp hl)
    by_cases e : q = p.dropLast
    · rw [e]; exact hd
    · exact ih (by simp at hd; simp [hd]) (prefix_dropLast hq hne) e (by simp [hk])

theorem below_inside (O w : Path) : Inside O (O ++ w) := List.prefix_append O w

theorem below_ne (O w : Path) (hw : w ≠ []) : O ++ w ≠ O := by
  intro e
  have := congrArg List.length e
  simp at this; exact hw this

theorem Sane.parent {fs : Fs} {O : Path} {cs : List Bytes} (hs : Sane fs O) (h : (fs.lookup (O ++ cs)).isSome) :
    fs.lookup (O ++ cs.dropLast) = some .dir := by
  by_cases e : cs = []
  · subst e; simpa using hs.odir
  · obtain ⟨n, hn⟩ := Option.isSome_iff_exists.1 h
    have := hs.closed _ (lookup_mem (by simp [e]) hn)
    rwa [List.dropLast_append_of_ne_nil e] at this

/-- the prefixes of `p` of lengths `1 … p.length` are all entries; this bound is why `fuelFor` suffices
    (`resolve_below`) -/
theorem depth_le {fs : Fs} (hc : Closed fs) {p : Path} {n : Node} (hm : (p, n) ∈ fs.nodes) :
    p.length ≤ fs.nodes.length := by
  have hsub : List.range' 1 p.length ⊆ fs.nodes.map (·.1.length) := by
    intro k hk
    have hk : 1 ≤ k ∧ k ≤ p.length := by simp [List.mem_range'_1] at hk; omega
    by_cases e : p.take k = p
    · have : p.length = k := by
        have := congrArg List.length e
        simp at this; omega
      exact List.mem_map.2 ⟨(p, n), hm, this⟩
    · have hs : (fs.lookup p).isSome := by
        cases hl : fs.lookup p with
        | some _ => rfl
        | none => exact absurd hm (lookup_none_not_mem hl n)
      have hd := anc_dir hc hs (List.take_prefix k p) e
      have hne : p.take k ≠ [] := by
        intro e0
        have := congrArg List.length e0
        simp at this; rcases this with h | h
        · omega
        · subst h; simp at e
      exact List.mem_map.2 ⟨(p.take k, .dir), lookup_mem hne hd, by simp; omega⟩
  simpa using (List.nodup_range' (s := 1) (n := p.length)).length_le_of_subset hsub

/-- where the lexical walk of `cs` from `O ++ w` ends (`..` = `dropLast`) -/
def lexEnd : List Bytes → List Bytes → List Bytes
  | w, [] => w
  | w, c :: r => if c = [dot, dot] then lexEnd w.dropLast r else lexEnd (w ++ [c]) r

def NotLink (fs : Fs) (p : Path) : Prop := ∀ t, fs.lookup p ≠ some (.link t)

/-- the lexical walk of `cs` from `O ++ w` never climbs above `O` and never meets a symbolic link -/
def LexOk (fs : Fs) (O : Path) : List Bytes → List Bytes → Prop
  | _, [] => True
  | w, c :: r =>
    if c = [dot, dot] then w ≠ [] ∧ LexOk fs O w.dropLast r
    else NotLink fs (O ++ (w ++ [c])) ∧ LexOk fs O (w ++ [c]) r

def Mono (fs fs' : Fs) : Prop := ∀ p, NotLink fs p → NotLink fs' p

theorem Mono.refl (fs : Fs) : Mono fs fs := fun _ h => h
theorem Mono.trans {a b c : Fs} (h1 : Mono a b) (h2 : Mono b c) : Mono a c := fun p h => h2 p (h1 p h)

theorem LexOk.mono {fs fs' : Fs} {O : Path} (hm : Mono fs fs') : ∀ (cs w : List Bytes),
    LexOk fs O w cs → LexOk fs' O w cs := by
  intro cs
  induction cs with
  | nil => intro w _; trivial
  | cons c r ih =>
    intro w h
    unfold LexOk at h ⊢
    split
    · rename_i hc; rw [if_pos hc] at h; exact ⟨h.1, ih _ h.2⟩
    · rename_i hc; rw [if_neg hc] at h; exact ⟨hm _ h.1, ih _ h.2⟩

theorem lexOk_of_prefixes {fs : Fs} {O : Path} : ∀ (cs w : List Bytes), [dot, dot] ∉ cs →
    (∀ q, q ≠ [] → q <+: cs → NotLink fs (O ++ (w ++ q))) → LexOk fs O w cs := by
  intro cs
  induction cs with
  | nil => intro w _ _; trivial
  | cons c r ih =>
    intro w hdd h
    simp only [List.mem_cons, not_or] at hdd
    unfold LexOk
    rw [if_neg (Ne.symm hdd.1)]
    refine ⟨h [c] (by simp) ⟨r, rfl⟩, ih (w ++ [c]) hdd.2 (fun q hq hqr => ?_)⟩
    have := h (c :: q) (by simp) ((List.prefix_cons_inj c).2 hqr)
    simpa using this

theorem lexOk_of_exists {fs : Fs} {O : Path} {init : List Bytes} {last : Bytes} (hc : Closed fs)
    (hs : (fs.lookup (O ++ (init ++ [last]))).isSome) (hdd : [dot, dot] ∉ init) : LexOk fs O [] init := by
  refine lexOk_of_prefixes init [] hdd (fun q _ hq t ht => ?_)
  have hpre : O ++ ([] ++ q) <+: O ++ (init ++ [last]) := by
    rw [List.nil_append]
    exact (List.prefix_append_right_inj O).2 (hq.trans (List.prefix_append _ _))
  have hne : O ++ ([] ++ q) ≠ O ++ (init ++ [last]) := by
    intro e
    have := congrArg List.length e
    have := hq.length_le
    simp at *; omega
  rw [anc_dir hc hs hpre hne] at ht
  cases ht

theorem lexOk_append {fs : Fs} {O : Path} : ∀ (a w b : List Bytes),
    LexOk fs O w (a ++ b) ↔ LexOk fs O w a ∧ LexOk fs O (lexEnd w a) b := by
  intro a
  induction a with
  | nil => intro w b; simp [LexOk, lexEnd]
  | cons c r ih =>
    intro w b
    simp only [List.cons_append, LexOk, lexEnd]
    split
    · rw [ih]; exact and_assoc.symm
    · rw [ih]; exact and_assoc.symm

theorem lexEnd_append : ∀ (a w b : List Bytes), lexEnd w (a ++ b) = lexEnd (lexEnd w a) b := by
  intro a
  induction a with
  | nil => intro w b; rfl
  | cons c r ih =>
    intro w b
    simp only [List.cons_append, lexEnd]
    split <;> exact ih _ _

theorem lexEnd_nodd : ∀ (a w : List Bytes), [dot, dot] ∉ a → lexEnd w a = w ++ a := by
  intro a
  induction a with
  | nil => intro w _; simp [lexEnd]
  | cons c r ih =>
    intro w h
    simp only [List.mem_cons, not_or] at h
    simp only [lexEnd, if_neg (Ne.symm h.1)]
    rw [ih _ h.2]; simp

theorem lexEnd_init {init : List Bytes} (h : [dot, dot] ∉ init) : lexEnd [] init = init := by
  rw [lexEnd_nodd init [] h]; simp

theorem lexOk_snoc {fs : Fs} {O : Path} {init : List Bytes} {last : Bytes} (hl : LexOk fs O [] init)
    (hdd : [dot, dot] ∉ init) (hlast : last ≠ [dot, dot]) (hn : NotLink fs (O ++ (init ++ [last]))) :
    LexOk fs O [] (init ++ [last]) := by
  rw [lexOk_append, lexEnd_init hdd]
  refine ⟨hl, ?_⟩
  unfold LexOk
  rw [if_neg hlast]
  exact ⟨hn, trivial⟩

theorem nodd_snoc {init : List Bytes} {last : Bytes} (h1 : [dot, dot] ∉ init) (h2 : last ≠ [dot, dot]) :
    [dot, dot] ∉ init ++ [last] := by
  intro h
  rcases List.mem_append.1 h with h | h
  · exact h1 h
  · simp at h; exact h2 h.symm

section
variable {fs : Fs} {O : Path} {fl : Bool} {fuel : Nat} {p : Path}

/-- along a link-free lexical walk `resolve`, if it succeeds, is lexical; the fuel left is not tracked (`∃ fuel'`) -/
theorem resolve_lex (fl : Bool) : ∀ (cs : List Bytes) (fuel : Nat) (w rest : List Bytes) (p : Path),
    LexOk fs O w cs → resolve fs fl fuel (O ++ w) (cs ++ rest) = some p →
    ∃ fuel', resolve fs fl fuel' (O ++ lexEnd w cs) rest = some p := by
  intro cs
  induction cs with
  | nil => intro fuel w rest p _ h; exact ⟨fuel, h⟩
  | cons c r ih =>
    intro fuel w rest p hl h
    cases fuel with
    | zero => simp [resolve] at h
    | succ fuel =>
      simp only [List.cons_append, resolve] at h
      unfold LexOk at hl
      simp only [lexEnd]
      split at h
      · rename_i hc
        rw [if_pos hc] at hl ⊢
        rw [List.dropLast_append_of_ne_nil hl.1] at h
        exact ih fuel _ rest p hl.2 h
      · rename_i hc
        rw [if_neg hc] at hl ⊢
        rw [List.append_assoc] at h
        split at h
        · rename_i t ht; exact absurd ht (hl.1 t)
        · exact ih fuel _ rest p hl.2 h
        -- a regular file, or nothing: only as the last component
        all_goals
          split at h
          · rename_i hr
            obtain ⟨rfl, rfl⟩ := List.append_eq_nil_iff.1 hr
            exact ⟨1, by simpa [resolve, lexEnd] using h⟩
          · cases h

theorem resolve_nil {cur : Path} (h : resolve fs fl fuel cur [] = some p) : p = cur := by
  cases fuel with
  | zero => simp [resolve] at h
  | succ f => simpa [resolve] using h.symm

theorem resolve_nil_pos (fs : Fs) (fl : Bool) (fuel : Nat) (cur : Path) (h : 0 < fuel) :
    resolve fs fl fuel cur [] = some cur := by
  cases fuel with
  | zero => cases h
  | succ f => simp [resolve]

theorem resolve_lex_eq {cs : List Bytes} {w : List Bytes}
    (hl : LexOk fs O w cs) (h : resolve fs fl fuel (O ++ w) cs = some p) : p = O ++ lexEnd w cs := by
  have h' : resolve fs fl fuel (O ++ w) (cs ++ []) = some p := by simpa using h
  obtain ⟨f', hf⟩ := resolve_lex fl cs fuel w [] p hl h'
  exact resolve_nil hf

theorem resolve_last_nofollow {cur : Path} {c : Bytes} (hc : c ≠ [dot, dot])
    (h : resolve fs false fuel cur [c] = some p) : p = cur ++ [c] := by
  cases fuel with
  | zero => simp [resolve] at h
  | succ f =>
    simp only [resolve, if_neg hc] at h
    split at h
    · simpa using h.symm
    · exact resolve_nil h
    · simpa using h.symm
    · simpa using h.symm

theorem resolve_step_dir {f : Nat} {cur : Path} {d : Bytes} {cs : List Bytes}
    (hd : d ≠ [dot, dot]) (hl : fs.lookup (cur ++ [d]) = some .dir) :
    resolve fs fl (f + 1) cur (d :: cs) = resolve fs fl f (cur ++ [d]) cs := by
  simp only [resolve, if_neg hd, hl]

/-- the other direction: along directories a `..`-free walk does succeed, given fuel, whatever is at its last
    component (a link only when that is not followed) -/
theorem resolve_walk (fl : Bool) : ∀ (cs : List Bytes) (cur : Path) (fuel : Nat),
    (∀ q, q ≠ [] → q <+: cs → q ≠ cs → fs.lookup (cur ++ q) = some .dir) →
    (fl = true → NotLink fs (cur ++ cs)) → [dot, dot] ∉ cs → cs.length < fuel →
    resolve fs fl fuel cur cs = some (cur ++ cs) := by
  intro cs
  induction cs with
  | nil =>
    intro cur fuel _ _ _ hf
    cases fuel with
    | zero => simp at hf
    | succ f => simp [resolve]
  | cons c r ih =>
    intro cur fuel hdirs hnl hdd hf
    simp only [List.mem_cons, not_or] at hdd
    obtain ⟨f, rfl⟩ : ∃ f, fuel = f + 1 := ⟨fuel - 1, by simp at hf; omega⟩
    by_cases hr : r = []
    · subst hr
      obtain ⟨g, rfl⟩ : ∃ g, f = g + 1 := ⟨f - 1, by simp at hf; omega⟩
      simp only [resolve, if_neg (Ne.symm hdd.1)]
      cases hl : fs.lookup (cur ++ [c]) with
      | none => simp
      | some n =>
        cases n with
        | file i => simp
        | dir => simp
        | link t =>
          cases fl with
          | false => simp
          | true => exact absurd hl (hnl rfl t)
    · rw [resolve_step_dir (Ne.symm hdd.1) (hdirs [c] (by simp) ⟨r, rfl⟩ (by simpa using hr))]
      have := ih (cur ++ [c]) f (fun q hq hqr hne => by
        have := hdirs (c :: q) (by simp) ((List.prefix_cons_inj c).2 hqr) (by simpa using hne)
        simpa using this) (by simpa using hnl) hdd.2 (by simp at hf; omega)
      simpa using this

/-- every walk is entered with `fuelFor fs`; `39 + 8 * #nodes` is what is left after its first step (into `O`) -/
theorem fuelFor_succ (fs : Fs) : fuelFor fs = (39 + 8 * fs.nodes.length) + 1 := by unfold fuelFor; omega

/-- below a directory that exists the fuel always suffices -/
theorem resolve_below (hc : Closed fs) (fl : Bool) {cs : List Bytes} (hdd : [dot, dot] ∉ cs)
    (hpar : fs.lookup (O ++ cs.dropLast) = some .dir) (hnl : fl = true → NotLink fs (O ++ cs)) :
    resolve fs fl (39 + 8 * fs.nodes.length) O cs = some (O ++ cs) := by
  refine resolve_walk fl cs O _ (fun q _ hq hne => ?_) hnl hdd ?_
  · by_cases e : q = cs.dropLast
    · rw [e]; exact hpar
    · exact anc_dir hc (by rw [hpar]; rfl) ((List.prefix_append_right_inj O).2 (prefix_dropLast hq hne))
        (fun h => e (List.append_cancel_left h))
  · by_cases e : O ++ cs.dropLast = []
    · have := congrArg List.length e
      simp at this; omega
    · have := depth_le hc (lookup_mem e hpar)
      simp at this; omega
end

theorem filter_out_setNode (O p : Path) (n : Node) (hin : Inside O p) (l : List (Path × Node)) :
    ((l.filter (·.1 != p)) ++ [(p, n)]).filter (outB O) = l.filter (outB O) := by
  have h1 : outB O (p, n) = false := Bool.eq_false_iff.2 fun h => (outB_iff O (p, n)).1 h hin
  have h2 : ∀ x ∈ l, outB O x = true → (x.1 != p) = true := by
    intro x _ hx
    simp only [bne_iff_ne, ne_eq]
    intro e; rw [← e] at hin; exact (outB_iff O x).1 hx hin
  rw [List.filter_append, filter_filter_of_imp l _ _ h2]
  simp [h1]

theorem inside_ne_nil {O p : Path} (hO : O ≠ []) (h : Inside O p) : p ≠ [] := by
  intro e; subst e; exact hO (List.prefix_nil.1 h)

section
variable {fs : Fs} {O p : Path} {n : Node}

/-- a file entry (`hfile`) is a hard link to an inode that has a name inside `O`, or carries the fresh inode
    (`newFile_inside`) -/
theorem setNode_new (hs : Sane fs O) (hin : Inside O p) (hne : p ≠ O)
    (hnone : fs.lookup p = none) (hpar : fs.lookup p.dropLast = some .dir)
    (hfile : ∀ i, n = .file i → i < fs.nextIno ∧ ∀ b ∈ fs.nodes, ¬ Inside O b.1 → b.2 ≠ .file i) :
    Sane (fs.setNode p n) O ∧ Step O fs (fs.setNode p n) := by
  have hp : p ≠ [] := lookup_none_ne_nil hnone
  have hmem : ∀ x ∈ (fs.setNode p n).nodes, x ∈ fs.nodes ∨ x = (p, n) := fun _ => mem_setNode
  refine ⟨⟨?_, ?_, ?_, ?_⟩, ⟨filter_out_setNode O p n hin fs.nodes, fun _ _ _ _ _ => rfl⟩⟩
  · rw [lookup_setNode_ne _ _ _ _ (Ne.symm hne)]; exact hs.odir
  · intro x hx
    rcases hmem x hx with hx | hx
    · have hd := hs.closed x hx
      have : x.1.dropLast ≠ p := by intro e; rw [e, hnone] at hd; cases hd
      rw [lookup_setNode_ne _ _ _ _ this]; exact hd
    · subst hx
      rw [lookup_setNode_ne _ _ _ _ (dropLast_ne hp)]; exact hpar
  · intro a ha b hb ino hai hbi hia hob
    rcases hmem a ha with ha | ha <;> rcases hmem b hb with hb | hb
    · exact hs.sep a ha b hb ino hai hbi hia hob
    · subst hb; exact hob hin
    · subst ha; exact (hfile ino hai).2 b hb hob hbi
    · subst hb; exact hob hin
  · intro x hx ino hi
    rcases hmem x hx with hx | hx
    · exact hs.fresh x hx ino hi
    · subst hx; exact (hfile ino hi).1

theorem setNode_new_mono (hp : p ≠ []) (hn : ∀ t, n ≠ .link t) :
    Mono fs (fs.setNode p n) := by
  intro q h t ht
  by_cases e : q = p
  · subst e; rw [lookup_setNode_eq _ _ _ hp] at ht
    simp only [Option.some.injEq] at ht; exact hn t ht
  · rw [lookup_setNode_ne _ _ _ _ e] at ht; exact h t ht

theorem setContent_inside (ino : Nat) (c : Bytes) (hs : Sane fs O)
    (hout : ∀ b ∈ fs.nodes, ¬ Inside O b.1 → b.2 ≠ .file ino) :
    Sane (fs.setContent ino c) O ∧ Step O fs (fs.setContent ino c) := by
  refine ⟨⟨hs.odir, hs.closed, hs.sep, hs.fresh⟩, ⟨rfl, fun n hn ho i hi => ?_⟩⟩
  have : i ≠ ino := by intro e; subst e; exact hout n hn ho hi
  exact content_setContent_ne fs i ino c this

theorem sane_bump (hs : Sane fs O) : Sane { fs with nextIno := fs.nextIno + 1 } O :=
  ⟨hs.odir, hs.closed, hs.sep, fun n hn ino hi => Nat.lt_succ_of_lt (hs.fresh n hn ino hi)⟩

theorem newFile_inside (c : Bytes) (hs : Sane fs O) (hin : Inside O p) (hne : p ≠ O)
    (hnone : fs.lookup p = none) (hpar : fs.lookup p.dropLast = some .dir) :
    Sane (fs.withNewFile p c) O ∧ Step O fs (fs.withNewFile p c) := by
  have hout : ∀ b ∈ fs.nodes, ¬ Inside O b.1 → b.2 ≠ .file fs.nextIno :=
    fun b hb _ hi => Nat.lt_irrefl _ (hs.fresh b hb _ hi)
  have h0 := sane_bump hs
  have ⟨h1, s1⟩ := setNode_new (n := .file fs.nextIno) h0 hin hne hnone hpar (fun i hi => by
    cases hi; exact ⟨Nat.lt_succ_self _, hout⟩)
  have hout1 : ∀ b ∈ (Fs.setNode { fs with nextIno := fs.nextIno + 1 } p (.file fs.nextIno)).nodes,
      ¬ Inside O b.1 → b.2 ≠ .file fs.nextIno := by
    intro b hb ho
    have : b ∈ fs.nodes := (outside_mem_iff s1.nodes b ho).1 hb
    exact hout b this ho
  have ⟨h2, s2⟩ := setContent_inside fs.nextIno c h1 hout1
  have st := s1.trans s2
  exact ⟨h2, st.nodes, st.content⟩

theorem mono_filter (fs : Fs) (P : Path → Bool) : Mono fs { fs with nodes := fs.nodes.filter (fun n => P n.1) } := by
  intro q h t ht
  cases hq : P q with
  | true => rw [lookup_filter_true fs P q hq] at ht; exact h t ht
  | false =>
    by_cases hn : q = []
    · subst hn; simp [Fs.lookup] at ht
    · rw [lookup_filter_false fs P q hq hn] at ht; cases ht

/-- both branches of `Fs.remove` (`remove_tree_inside`, `remove_one_inside`) -/
theorem filter_inside (P : Path → Bool) (hs : Sane fs O) (hO : P O = true)
    (hpar : ∀ n ∈ fs.nodes, P n.1 = true → P n.1.dropLast = true)
    (hout : ∀ q, ¬ Inside O q → P q = true) :
    let fs' : Fs := { fs with nodes := fs.nodes.filter (fun n => P n.1) }
    Sane fs' O ∧ Step O fs fs' ∧ Mono fs fs' := by
  intro fs'
  have hsub : ∀ x ∈ fs'.nodes, x ∈ fs.nodes ∧ P x.1 = true := fun x hx => List.mem_filter.1 hx
  refine ⟨⟨?_, ?_, ?_, ?_⟩, ⟨?_, fun _ _ _ _ _ => rfl⟩, ?_⟩
  · rw [lookup_filter_true fs P O hO]; exact hs.odir
  · intro x hx
    have ⟨h1, h2⟩ := hsub x hx
    rw [lookup_filter_true fs P _ (hpar x h1 h2)]; exact hs.closed x h1
  · intro a ha b hb; exact hs.sep a (hsub a ha).1 b (hsub b hb).1
  · intro x hx; exact hs.fresh x (hsub x hx).1
  · exact filter_filter_of_imp fs.nodes _ _ fun x _ hx => hout x.1 ((outB_iff O x).1 hx)
  · exact mono_filter fs P

/-- `remove_dir_all(p)` -/
theorem remove_tree_inside (hs : Sane fs O) (hin : Inside O p) (hne : p ≠ O) :
    let fs' : Fs := { fs with nodes := fs.nodes.filter (fun q => !(p.isPrefixOf q.1)) }
    Sane fs' O ∧ Step O fs fs' ∧ Mono fs fs' := by
  have hnp : ∀ q, (!(p.isPrefixOf q)) = true ↔ ¬ p <+: q := fun q => outB_iff p (q, .dir)
  refine filter_inside (fun q => !(p.isPrefixOf q)) hs ?_ ?_ ?_
  · apply (hnp O).2
    intro h; exact hne (List.IsPrefix.eq_of_length_le h (List.IsPrefix.length_le hin))
  · intro n _ h
    apply (hnp _).2
    intro h'
    exact (hnp _).1 h (List.IsPrefix.trans h' (List.dropLast_prefix _))
  · intro q hq; exact (hnp q).2 (fun h => hq (List.IsPrefix.trans hin h))

/-- `remove_file(p)` -/
theorem remove_one_inside (hs : Sane fs O) (hin : Inside O p) (hne : p ≠ O)
    (hnd : fs.lookup p ≠ some .dir) :
    let fs' : Fs := { fs with nodes := fs.nodes.filter (·.1 != p) }
    Sane fs' O ∧ Step O fs fs' ∧ Mono fs fs' := by
  refine filter_inside (fun q => q != p) hs ?_ ?_ ?_
  · simpa using Ne.symm hne
  · intro n hn _
    have := hs.closed n hn
    simp only [bne_iff_ne, ne_eq]
    intro e; rw [e] at this; exact hnd this
  · intro q hq
    simp only [bne_iff_ne, ne_eq]
    intro e; subst e; exact hq hin

end

end Pna.Confined
