import PnaVerif.Model.Cli.Edit
/-! The transform framework at the level of `entriesOf`: either strategy gives `filterMap f` of the entries it hands on
    (`writtenOf`) when `f` `Respects` the stored form.  That is proved for `deleteF`, `chmodF` and `stripF` (`respects_*`)
    and, inside `edit_spec`, for any edit by name that leaves kind and stored data alone (how chown and xattr get it); it
    is not stated for `migrateF` and `aclSetF`.  `BitAffine` for chmod. -/
namespace Pna.Cli

theorem entriesOf_nil : entriesOf [] = [] := rfl
theorem entriesOf_cons (i : Item) (a : Archive) : entriesOf (i :: a) = i.entries ++ entriesOf a := by
  simp [entriesOf]

theorem entriesOf_append (a b : Archive) : entriesOf (a ++ b) = entriesOf a ++ entriesOf b := by
  simp [entriesOf]

/-- the entries as the strategy hands them on: `--unsolid` writes the entries of a block on their own -/
def Item.written : Item → List LEntry
  | .normal e => [e]
  | .solid h _ es => es.map (standalone h)

def writtenOf : Strategy → Archive → List LEntry
  | .unsolid, a => a.flatMap Item.written
  | .keepSolid, a => entriesOf a

/-- a command's entry function neither reads nor writes the stored form -/
def Respects (f : LEntry → Option LEntry) : Prop := ∀ h e, f (standalone h e) = (f e).map (standalone h)

/-- an entry without its stored form (codec, cipher, mode): what C10 calls its content and attributes -/
def LEntry.content (e : LEntry) : LEntry := { e with data := e.data.drop 3 }

theorem content_standalone (h : Bytes) (e : LEntry) : (standalone h e).content = e.content := by
  unfold standalone LEntry.content
  split <;> simp

theorem standalone_plain (h : Bytes) (e : LEntry) (hp : h.getD 3 0 = 0) : standalone h e = e := by
  have hp2 : h[3]?.getD 0 = 0 := by simpa [List.getD] using hp
  simp [standalone, hp2]

theorem standalone_attrs (h : Bytes) (e : LEntry) :
    (standalone h e).name = e.name ∧ (standalone h e).kind = e.kind ∧ (standalone h e).rawSize = e.rawSize ∧
    (standalone h e).mode = e.mode ∧ (standalone h e).owner = e.owner ∧ (standalone h e).created = e.created ∧
    (standalone h e).modified = e.modified ∧ (standalone h e).accessed = e.accessed ∧
    (standalone h e).xattrs = e.xattrs ∧ (standalone h e).extras = e.extras := by
  unfold standalone; split <;> simp

theorem filterMap_respects (f : LEntry → Option LEntry) (hf : Respects f) (h : Bytes) (es : List LEntry) :
    (es.map (standalone h)).filterMap f = (es.filterMap f).map (standalone h) := by
  rw [List.filterMap_map, List.map_filterMap]
  congr 1
  funext e
  exact hf h e

theorem entriesOf_map_normal (l : List LEntry) : entriesOf (l.map Item.normal) = l := by
  rw [entriesOf, List.flatMap_map]
  exact List.flatMap_singleton' l

theorem transformUnsolid_cons (f : LEntry → Option LEntry) (i : Item) (a : Archive) :
    transformUnsolid f (i :: a) = transformUnsolid f [i] ++ transformUnsolid f a := by
  simp [transformUnsolid]

theorem entriesOf_unsolid (f : LEntry → Option LEntry) (hf : Respects f) (a : Archive) :
    entriesOf (transformUnsolid f a) = (writtenOf .unsolid a).filterMap f := by
  -- both sides are `flatMap`s over the items
  simp only [entriesOf, transformUnsolid, writtenOf, List.flatMap_assoc, List.filterMap_flatMap]
  congr 1
  funext i
  cases i with
  | normal e =>
    show ((f e).map Item.normal).toList.flatMap Item.entries = [e].filterMap f
    rw [List.filterMap_cons]
    cases f e <;> rfl
  | solid h x es =>
    show entriesOf ((es.filterMap f).map (Item.normal ∘ standalone h)) = _
    rw [← List.map_map, entriesOf_map_normal, Item.written, filterMap_respects f hf]

theorem entriesOf_keepSolid (f : LEntry → Option LEntry) (a : Archive) :
    entriesOf (transformKeepSolid f a) = (entriesOf a).filterMap f := by
  unfold transformKeepSolid
  induction a with
  | nil => rfl
  | cons i a ih =>
    cases i with
    | normal e =>
      simp only [List.filterMap_cons, entriesOf_cons, Item.entries, List.singleton_append]
      cases hf : f e with
      | none => simp [ih]
      | some e' => simp [entriesOf_cons, Item.entries, ih]
    | solid h x es =>
      simp only [List.filterMap_cons, entriesOf_cons, Item.entries, List.filterMap_append, ih]

theorem entriesOf_transform (s : Strategy) (f : LEntry → Option LEntry) (hf : Respects f) (a : Archive) :
    entriesOf (transform s f a) = (writtenOf s a).filterMap f := by
  cases s
  · exact entriesOf_unsolid f hf a
  · exact entriesOf_keepSolid f a

/-- What is handed on is the archive's entries up to the stored form of the file entries of
    encrypted blocks under `--unsolid`: names, kinds, contents and every attribute are the same. -/
theorem written_content (s : Strategy) (a : Archive) :
    (writtenOf s a).map LEntry.content = (entriesOf a).map LEntry.content := by
  cases s
  · simp only [writtenOf, entriesOf, List.map_flatMap]
    congr 1
    funext i
    cases i with
    | normal e => rfl
    | solid h x es => simp [Item.written, Item.entries, content_standalone]
  · rfl

theorem written_keepSolid (a : Archive) : writtenOf .keepSolid a = entriesOf a := rfl

/-- no encrypted block: nothing is written again -/
theorem written_plain (s : Strategy) (a : Archive)
    (hp : ∀ i ∈ a, match i with | .normal _ => True | .solid h _ _ => h.getD 3 0 = 0) :
    writtenOf s a = entriesOf a := by
  cases s
  · simp only [writtenOf, entriesOf, List.flatMap_def]
    congr 1
    apply List.map_congr_left
    intro i hi
    cases i with
    | normal e => rfl
    | solid h x es =>
      have := hp _ hi
      simp only [Item.written, Item.entries]
      conv => rhs; rw [← List.map_id es]
      apply List.map_congr_left
      intro e _
      exact standalone_plain h e this
  · rfl

/-- after `--unsolid` there is no block left: a second pass writes nothing again -/
theorem written_unsolid (s : Strategy) (f : LEntry → Option LEntry) (a : Archive) :
    writtenOf s (transformUnsolid f a) = entriesOf (transformUnsolid f a) := by
  apply written_plain
  intro i hi
  simp only [transformUnsolid, List.mem_flatMap] at hi
  obtain ⟨j, _, hj⟩ := hi
  cases j with
  | normal e => cases hfe : f e <;> simp [hfe] at hj; subst hj; trivial
  | solid h x es => simp only [List.mem_map] at hj; obtain ⟨e, _, rfl⟩ := hj; trivial

/-- solid blocks with their header options and their own unknown chunks -/
def solidFrames (a : Archive) : List (Bytes × List (Bytes × Bytes)) :=
  a.filterMap fun | .normal _ => none | .solid h x _ => some (h, x)

/-- an edit that neither reads nor writes the kind and the stored data commutes with writing an entry on its own -/
theorem respects_edit (u : LEntry → LEntry) (hk : ∀ e, (u e).kind = e.kind) (hd : ∀ e, (u e).data = e.data)
    (hu : ∀ e d, u { e with data := d } = { u e with data := d }) : Respects fun e => some (u e) := by
  intro h e
  show some (u (standalone h e)) = some (standalone h (u e))
  have hc : (h.getD 3 0 != 0 && ((u e).kind == 0 || (u e).kind == 2)) = (h.getD 3 0 != 0 && (e.kind == 0 || e.kind == 2)) := by
    rw [hk]
  unfold standalone
  rw [hc, hd]
  split
  · rw [hu]
  · rfl

theorem respects_some : Respects some := fun _ _ => rfl

/-- … and so does choosing by name between two functions that do -/
theorem respects_byName (c : Bytes → Bool) (f g : LEntry → Option LEntry) (hf : Respects f) (hg : Respects g) :
    Respects fun e => if c e.name then f e else g e := by
  intro h e
  simp only [(standalone_attrs h e).1, hf h e, hg h e]
  split <;> rfl

theorem respects_delete (sel excl : Bytes → Bool) : Respects (deleteF sel excl) :=
  respects_byName (fun n => sel n && !excl n) _ _ (fun _ _ => rfl) respects_some

theorem respects_chmod (sel : Bytes → Bool) (m : Mode) : Respects (chmodF sel m) :=
  respects_byName sel _ _ (respects_edit _ (fun _ => rfl) (fun _ => rfl) fun _ _ => rfl) respects_some

theorem respects_strip (sel : Bytes → Bool) (o : StripOpts) : Respects (stripF sel o) :=
  respects_byName (fun n => !sel n) _ _ respects_some (respects_edit _ (fun _ => rfl) (fun _ => rfl) fun _ _ => rfl)

/-- A command that picks entries by name and edits attributes other than kind and stored data: the entries that come
    back are those handed on, with exactly the selected ones edited.  (`u` stands after `a`: in front of it, a `_` for `u`
    is solved from the side conditions `fun _ => rfl` as the identity before the statement is looked at.) -/
theorem edit_spec (s : Strategy) (sel : Bytes → Bool) (a : Archive) (u : LEntry → LEntry) (hk : ∀ e, (u e).kind = e.kind)
    (hd : ∀ e, (u e).data = e.data) (hu : ∀ e d, u { e with data := d } = { u e with data := d }) :
    entriesOf (transform s (fun e => if sel e.name then some (u e) else some e) a)
      = (writtenOf s a).map (fun e => if sel e.name then u e else e) := by
  rw [entriesOf_transform _ _ (respects_byName sel _ _ (respects_edit u hk hd hu) respects_some), ← List.filterMap_eq_map']
  congr 1
  funext e
  split <;> rfl

theorem bool_absorb (a m b : Bool) : ((((a && m) || b) && m) || b) = ((a && m) || b) := by
  cases a <;> cases m <;> cases b <;> rfl

/-- `f` acts on each bit on its own, keeping it under a mask or setting it: bit `i` of `f y` is `(yᵢ && pᵢ) || qᵢ`.
    Every chmod clause is of this kind, and such a map is idempotent (`bool_absorb`). -/
def BitAffine (f : Nat → Nat) : Prop :=
  ∃ p q : Nat → Bool, ∀ y i, (f y).testBit i = ((y.testBit i && p i) || q i)

theorem BitAffine.idem {f : Nat → Nat} (h : BitAffine f) (x : Nat) : f (f x) = f x := by
  obtain ⟨p, q, h⟩ := h
  apply Nat.eq_of_testBit_eq
  intro i
  rw [h, h, bool_absorb]

theorem bitAffine_const (c : Nat) : BitAffine fun _ => c :=
  ⟨fun _ => false, c.testBit, fun _ _ => by simp⟩

theorem bitAffine_and (m : Nat) : BitAffine (· &&& m) :=
  ⟨m.testBit, fun _ => false, fun _ _ => by simp⟩

theorem bitAffine_id : BitAffine fun y => y :=
  ⟨fun _ => true, fun _ => false, fun _ _ => by simp⟩

theorem BitAffine.or {f g : Nat → Nat} (hf : BitAffine f) (hg : BitAffine g) : BitAffine fun y => f y ||| g y := by
  obtain ⟨p, q, hf⟩ := hf
  obtain ⟨p', q', hg⟩ := hg
  refine ⟨fun i => p i || p' i, fun i => q i || q' i, fun y i => ?_⟩
  rw [Nat.testBit_or, hf, hg]
  show (_ && p i || q i || (_ && p' i || q' i)) = (_ && (p i || p' i) || (q i || q' i))
  cases y.testBit i <;> cases p i <;> cases q i <;> cases p' i <;> rfl

theorem BitAffine.ite (c : Prop) [Decidable c] {f g : Nat → Nat} (hf : BitAffine f) (hg : BitAffine g) :
    BitAffine fun y => if c then f y else g y := by
  split <;> assumption

theorem bitAffine_applyTo (m : Mode) : BitAffine m.applyTo := by
  cases m with
  | num v => exact bitAffine_const v
  | equal t p =>
    exact (((bitAffine_and _).or (.ite _ (bitAffine_const _) (bitAffine_and _))).or
      (.ite _ (bitAffine_const _) (bitAffine_and _))).or (.ite _ (bitAffine_const _) (bitAffine_and _))
  | plus t p => exact bitAffine_id.or (bitAffine_const _)
  | minus t p => exact bitAffine_and _

end Pna.Cli
