import PnaVerif.Lemmas.Acl
/-!
`acl set` (`aclSetE`) for C10.  The edit of the General list, `-m` then `-x`, is the named function `aclUpd`; on an
entry with a General list `aclSetE` writes `aclChunks (m.map (editG (aclUpd …)))` (`aclSetE_of_general`).  `is_match`
looks at the DEFAULT flag and the owner only, which `modifyFirst` never changes; the idempotence of the edit rests on
that, on `isMatch_dichotomy` (two arguments match the same entries or no common entry) and on `modifyFirst_filter_*`.
The edit keeps entries well formed (`aclUpd_WF`, given `ArgOk`) but may EMPTY the General group, which then does not
read back (`aclOf_aclChunks_dropEmpty`, `dropEmpty`).  A collected map with a General list is `m1 ++ ([], l) :: m2` with
no other General and no empty group (`SplitG`); the edit and the write/read cycle touch the middle only (`editG_split`).
-/
namespace Pna.Cli
open Text

/-- the owner named by an `-m` / `-x` argument is well formed: a non-empty identifier without `:` for a named user or
    group.  The argument parser (`AclEntries::from_str`, cli/src/command/acl.rs) produces nothing else: it reads the name
    with `take_while(|c| c != ':')` and yields `.owner` / `.ownerGroup` for an empty one. -/
def ArgOk (x : AclArg) : Prop := x.owner.WF

instance (x : AclArg) : Decidable (ArgOk x) := by unfold ArgOk; infer_instance

theorem toAce_flags_length (x : AclArg) : x.toAce.flags.length = 6 := by
  simp only [AclArg.toAce, List.length_map]; rfl

theorem toAce_perms_length (x : AclArg) : x.toAce.perms.length = 16 := by
  simp only [AclArg.toAce, parseSet_length]; rfl

/-- the form in which the statements about `-m x` ask for it -/
theorem argOk_some {x : AclArg} (hx : ArgOk x) : ∀ y, some x = some y → ArgOk y :=
  fun _ h => Option.some.inj h ▸ hx

theorem toAce_WF_iff (x : AclArg) : x.toAce.WF ↔ ArgOk x := by
  unfold Ace.WF ArgOk
  constructor
  · intro h; exact h.2.2
  · intro h; exact ⟨toAce_flags_length x, toAce_perms_length x, h⟩

/-- `-m x`: the first matching entry gets the permission, or the argument's entry is appended -/
def modifyOrAdd (x : AclArg) (acl : List Ace) : List Ace :=
  if acl.any x.isMatch then modifyFirst x acl else acl ++ [x.toAce]

/-- the edit of the General platform's list: `-m` first, then `-x` -/
def aclUpd (modify remove : Option AclArg) (acl : List Ace) : List Ace :=
  let acl := match modify with
    | some x => modifyOrAdd x acl
    | none => acl
  match remove with
  | some x => acl.filter (fun a => !x.isMatch a)
  | none => acl

theorem aclUpd_modify (x : AclArg) (l : List Ace) :
    aclUpd (some x) none l = if l.any x.isMatch then modifyFirst x l else l ++ [x.toAce] := rfl

theorem aclUpd_remove (x : AclArg) (l : List Ace) : aclUpd none (some x) l = l.filter (fun a => !x.isMatch a) := rfl

theorem aclUpd_both (x y : AclArg) (l : List Ace) :
    aclUpd (some x) (some y) l = (aclUpd (some x) none l).filter (fun a => !y.isMatch a) := rfl

/-- apply `f` to the list(s) of the General platform -/
def editG (f : List Ace → List Ace) (p : Str × List Ace) : Str × List Ace := if p.1 == [] then (p.1, f p.2) else p

theorem editG_keys (f : List Ace → List Ace) (m : AclMap) : (m.map (editG f)).map (·.1) = m.map (·.1) := by
  rw [List.map_map]
  apply List.map_congr_left
  intro p _
  simp only [Function.comp, editG]
  split <;> rfl

theorem editG_comp (f g : List Ace → List Ace) (m : AclMap) :
    (m.map (editG f)).map (editG g) = m.map (editG (fun l => g (f l))) := by
  rw [List.map_map]
  apply List.map_congr_left
  intro p _
  simp only [Function.comp, editG]
  split
  · rfl
  · rfl

theorem isMatch_setPerms (x : AclArg) (a : Ace) (p : Bits) : x.isMatch { a with perms := p } = x.isMatch a := rfl

theorem isMatch_toAce (x : AclArg) : x.isMatch x.toAce = true := by
  simp only [AclArg.isMatch, AclArg.toAce, flagTable, List.map_cons, List.headD_cons]
  simp

theorem isMatch_dichotomy (x y : AclArg) :
    (∀ a, x.isMatch a = y.isMatch a) ∨ (∀ a, x.isMatch a = true → y.isMatch a = false) := by
  by_cases h : x.dflt = y.dflt ∧ x.owner = y.owner
  · left; intro a; simp only [AclArg.isMatch, h.1, h.2]
  · right
    intro a ha
    simp only [AclArg.isMatch, Bool.and_eq_true, beq_iff_eq] at ha
    cases hy : y.isMatch a with
    | false => rfl
    | true =>
      simp only [AclArg.isMatch, Bool.and_eq_true, beq_iff_eq] at hy
      exact absurd ⟨ha.1.trans hy.1.symm, ha.2.trans hy.2.symm⟩ h

theorem modifyFirst_any (x y : AclArg) (l : List Ace) : (modifyFirst x l).any y.isMatch = l.any y.isMatch := by
  fun_induction modifyFirst x l with
  | case1 => rfl
  | case2 => rfl
  | case3 _ _ _ ih => rw [List.any_cons, List.any_cons, ih]

theorem modifyFirst_idem (x : AclArg) (l : List Ace) : modifyFirst x (modifyFirst x l) = modifyFirst x l := by
  fun_induction modifyFirst x l with
  | case1 => rfl
  | case2 a _ h => rw [modifyFirst, if_pos (by exact h)]
  | case3 _ _ h ih => rw [modifyFirst, if_neg h, ih]

theorem modifyFirst_append_of_none (x : AclArg) (l r : List Ace) (h : l.any x.isMatch = false) :
    modifyFirst x (l ++ r) = l ++ modifyFirst x r := by
  induction l with
  | nil => rfl
  | cons a l ih =>
    rw [List.any_cons, Bool.or_eq_false_iff] at h
    rw [List.cons_append, modifyFirst, if_neg (by simp [h.1]), ih h.2, List.cons_append]

/-- an `-x` argument that matches exactly what `-m` matches removes the modified entry like the original one -/
theorem modifyFirst_filter_same (x y : AclArg) (l : List Ace) (hxy : ∀ a, x.isMatch a = y.isMatch a) :
    (modifyFirst x l).filter (fun a => !y.isMatch a) = l.filter (fun a => !y.isMatch a) := by
  fun_induction modifyFirst x l with
  | case1 => rfl
  | case2 a _ h =>
    have hy : y.isMatch a = true := hxy a ▸ h
    rw [List.filter_cons_of_neg (by simpa [isMatch_setPerms] using hy), List.filter_cons_of_neg (by simpa using hy)]
  | case3 _ _ _ ih => rw [List.filter_cons, List.filter_cons, ih]

/-- an `-x` argument that matches nothing `-m` matches: removing commutes with modifying -/
theorem modifyFirst_filter_disj (x y : AclArg) (l : List Ace) (hxy : ∀ a, x.isMatch a = true → y.isMatch a = false) :
    (modifyFirst x l).filter (fun a => !y.isMatch a) = modifyFirst x (l.filter (fun a => !y.isMatch a)) := by
  fun_induction modifyFirst x l with
  | case1 => rfl
  | case2 a _ h =>
    have hy : y.isMatch a = false := hxy a h
    rw [List.filter_cons_of_pos (by simpa [isMatch_setPerms] using hy), List.filter_cons_of_pos (by simpa using hy),
      modifyFirst, if_pos h]
  | case3 a _ h ih =>
    rw [List.filter_cons, List.filter_cons, ih]
    split
    · rw [modifyFirst, if_neg h]
    · rfl

theorem modifyFirst_none (x : AclArg) (l : List Ace) (h : l.any x.isMatch = false) : modifyFirst x l = l := by
  have := modifyFirst_append_of_none x l [] h
  simpa [modifyFirst] using this

theorem modifyOrAdd_any (x : AclArg) (l : List Ace) : (modifyOrAdd x l).any x.isMatch = true := by
  unfold modifyOrAdd
  split
  · rename_i h; rw [modifyFirst_any]; exact h
  · simp only [List.any_append, List.any_cons, isMatch_toAce, List.any_nil, Bool.or_false, Bool.or_true]

theorem modifyOrAdd_of_any (x : AclArg) (l : List Ace) (h : l.any x.isMatch = true) :
    modifyOrAdd x l = modifyFirst x l := by
  unfold modifyOrAdd; rw [if_pos h]

theorem modifyOrAdd_idem (x : AclArg) (l : List Ace) : modifyOrAdd x (modifyOrAdd x l) = modifyOrAdd x l := by
  rw [modifyOrAdd_of_any x _ (modifyOrAdd_any x l)]
  unfold modifyOrAdd
  split
  · exact modifyFirst_idem x l
  · rename_i h
    rw [modifyFirst_append_of_none x l _ (by simpa using h)]
    simp only [modifyFirst, isMatch_toAce, if_true]

theorem filter_not_any (y : AclArg) (l : List Ace) : (l.filter (fun a => !y.isMatch a)).any y.isMatch = false := by
  rw [List.any_filter]
  simp

theorem modifyOrAdd_filter_same (x y : AclArg) (l : List Ace) (hxy : ∀ a, x.isMatch a = y.isMatch a) :
    (modifyOrAdd x l).filter (fun a => !y.isMatch a) = l.filter (fun a => !y.isMatch a) := by
  unfold modifyOrAdd
  split
  · exact modifyFirst_filter_same x y l hxy
  · have : y.isMatch x.toAce = true := (hxy _) ▸ isMatch_toAce x
    simp only [List.filter_append, List.filter_cons, this, Bool.not_true, List.filter_nil]
    simp

theorem filter_any_disj (x y : AclArg) (l : List Ace) (hxy : ∀ a, x.isMatch a = true → y.isMatch a = false) :
    (l.filter (fun a => !y.isMatch a)).any x.isMatch = l.any x.isMatch := by
  rw [List.any_filter]
  congr 1
  funext a
  cases hx : x.isMatch a with
  | false => simp
  | true => simp [hxy a hx]

theorem modifyFirst_WF (x : AclArg) (l : List Ace) (h : ∀ a ∈ l, a.WF) : ∀ a ∈ modifyFirst x l, a.WF := by
  fun_induction modifyFirst x l with
  | case1 => exact h
  | case2 b rest _ =>
    have hb := h b List.mem_cons_self
    exact List.forall_mem_cons.2 ⟨⟨hb.1, toAce_perms_length x, hb.2.2⟩, fun a ha => h a (List.mem_cons_of_mem _ ha)⟩
  | case3 b rest _ ih =>
    exact List.forall_mem_cons.2 ⟨h b List.mem_cons_self, ih fun a ha => h a (List.mem_cons_of_mem _ ha)⟩

theorem modifyOrAdd_WF (x : AclArg) (hx : ArgOk x) (l : List Ace) (h : ∀ a ∈ l, a.WF) :
    ∀ a ∈ modifyOrAdd x l, a.WF := by
  unfold modifyOrAdd
  split
  · exact modifyFirst_WF x l h
  · intro a ha
    rcases List.mem_append.mp ha with ha | ha
    · exact h a ha
    · rw [List.mem_singleton] at ha
      exact ha ▸ (toAce_WF_iff x).mpr hx

theorem aclUpd_WF (modify remove : Option AclArg) (hx : ∀ x, modify = some x → ArgOk x) (l : List Ace)
    (h : ∀ a ∈ l, a.WF) : ∀ a ∈ aclUpd modify remove l, a.WF := by
  have h1 : ∀ a ∈ (match modify with | some x => modifyOrAdd x l | none => l), a.WF := by
    cases modify with
    | none => exact h
    | some x => exact modifyOrAdd_WF x (hx x rfl) l h
  cases remove with
  | none => exact h1
  | some y => exact fun a ha => h1 a (List.mem_filter.mp ha).1

theorem aclUpd_modify_ne_nil (x : AclArg) (l : List Ace) : aclUpd (some x) none l ≠ [] := by
  intro h
  have := modifyOrAdd_any x l
  have h2 : modifyOrAdd x l = [] := h
  rw [h2] at this
  cases this

theorem aclSetE_of_general (modify remove : Option AclArg) (e : LEntry) (m : AclMap)
    (hm : aclOf [] [] e.extras = some m) (hg : m.any (·.1 == []) = true) :
    aclSetE modify remove e =
      { e with extras := aclChunks (m.map (editG (aclUpd modify remove))) ++ e.extras.filter (fun x => !isAclChunk x) } := by
  unfold aclSetE
  simp only [hm, Option.getD_some, hg, Bool.not_true, Bool.false_eq_true, if_false]
  -- the model's inline closures are `aclUpd modify remove` and `editG` of it, by unfolding
  rfl

theorem any_key_eq_isSome (m : AclMap) (k : Str) : m.any (·.1 == k) = (List.lookup k m).isSome := by
  induction m with
  | nil => rfl
  | cons p m ih =>
    obtain ⟨a, b⟩ := p
    rw [List.any_cons, List.lookup_cons, ih]
    by_cases h : k = a
    · simp [h]
    · simp [beq_false_of_ne h, beq_false_of_ne (Ne.symm h)]

/-- a collected map cut at its General list `l` (platform `[]`): no other General group and no empty group around it
    (file head; from `AclMapOk` by `splitG_of_lookup`) -/
def SplitG (m m1 : AclMap) (l : List Ace) (m2 : AclMap) : Prop :=
  m = m1 ++ ([], l) :: m2 ∧ ∀ p ∈ m1 ++ m2, p.1 ≠ [] ∧ p.2 ≠ []

theorem splitG_of_lookup {m : AclMap} (hm : AclMapOk m) {l : List Ace} (hl : List.lookup [] m = some l) :
    ∃ m1 m2, SplitG m m1 l m2 := by
  obtain ⟨m1, m2, rfl, h1⟩ := List.lookup_eq_some_iff.1 hl
  have hk := hm.1
  rw [List.map_append, List.map_cons, List.nodup_append, List.nodup_cons] at hk
  refine ⟨m1, m2, rfl, fun p hp => ?_⟩
  rcases List.mem_append.1 hp with hp | hp
  · exact ⟨fun h0 => by simpa [h0] using h1 p hp, (hm.2 p (by simp [hp])).1⟩
  · exact ⟨fun h0 => hk.2.1.1 (List.mem_map.2 ⟨p, hp, h0⟩), (hm.2 p (by simp [hp])).1⟩

/-- what `acl set` writes for a split map, and what is read back from it: the General list edited, or gone if
    the edit emptied it -/
theorem editG_split (f : List Ace → List Ace) {m m1 m2 : AclMap} {l : List Ace} (h : SplitG m m1 l m2) :
    m.map (editG f) = m1 ++ ([], f l) :: m2 ∧
    dropEmpty (m.map (editG f)) = m1 ++ (if f l = [] then [] else [([], f l)]) ++ m2 := by
  obtain ⟨rfl, h⟩ := h
  have h1 : ∀ m' : AclMap, (∀ p ∈ m', p ∈ m1 ++ m2) → m'.map (editG f) = m' ∧ dropEmpty m' = m' :=
    fun m' hm' => ⟨by
      conv => rhs; rw [← List.map_id m']
      exact List.map_congr_left fun p hp => by simp [editG, (h p (hm' p hp)).1],
      dropEmpty_of_ok _ fun p hp => (h p (hm' p hp)).2⟩
  have hm1 := h1 m1 fun p hp => List.mem_append_left _ hp
  have hm2 := h1 m2 fun p hp => List.mem_append_right _ hp
  have he : (m1 ++ ([], l) :: m2).map (editG f) = m1 ++ ([], f l) :: m2 := by
    rw [List.map_append, List.map_cons, hm1.1, hm2.1]
    rfl
  refine ⟨he, ?_⟩
  rw [he]
  unfold dropEmpty at hm1 hm2 ⊢
  rw [List.filter_append, List.filter_cons, hm1.2, hm2.2]
  by_cases hf : f l = [] <;> simp [hf]

theorem lookup_none_of_split {m m1 m2 : AclMap} {l : List Ace} (h : SplitG m m1 l m2) :
    List.lookup [] m1 = none ∧ List.lookup [] m2 = none :=
  ⟨List.lookup_eq_none_iff.2 fun p hp => by simpa using Ne.symm (h.2 p (List.mem_append_left _ hp)).1,
   List.lookup_eq_none_iff.2 fun p hp => by simpa using Ne.symm (h.2 p (List.mem_append_right _ hp)).1⟩

theorem lookup_general_split (f : List Ace → List Ace) {m m1 m2 : AclMap} {l : List Ace} (h : SplitG m m1 l m2) :
    List.lookup [] (dropEmpty (m.map (editG f))) = if f l = [] then none else some (f l) := by
  obtain ⟨h1, h2⟩ := lookup_none_of_split h
  rw [(editG_split f h).2, List.lookup_append, List.lookup_append, h1]
  split <;> simp [h2]

theorem lookup_other_split (f : List Ace → List Ace) {m m1 m2 : AclMap} {l : List Ace} (h : SplitG m m1 l m2)
    {k : Str} (hk : k ≠ []) : List.lookup k (dropEmpty (m.map (editG f))) = List.lookup k m := by
  have hb : (k == ([] : Str)) = false := by simpa using hk
  rw [(editG_split f h).2, h.1, List.lookup_append, List.lookup_append, List.lookup_append, List.lookup_cons, hb]
  split <;> simp [List.lookup_cons, hb]

end Pna.Cli
