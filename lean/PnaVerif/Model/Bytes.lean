/-
  Bytes, big-endian integer codecs, and the three-valued `Outcome` used to model
  Rust code that can return `Ok`, return `Err(io::Error)` or panic.
  Model files import nothing outside core Lean so the driver links as a `lean_exe`.
-/
namespace Pna

abbrev Bytes := List UInt8

/-- Canonical form of `io::ErrorKind` (messages are never compared). -/
inductive Err where
  | eof            -- UnexpectedEof
  | invalidData
  | invalidInput
  | unsupported
  | alreadyExists
  | notFound
  | other
  deriving DecidableEq, Repr, Inhabited

def Err.toString : Err → String
  | .eof => "eof" | .invalidData => "invalidData" | .invalidInput => "invalidInput"
  | .unsupported => "unsupported" | .alreadyExists => "alreadyExists"
  | .notFound => "notFound" | .other => "other"

/-- Result of running a piece of Rust: value, `io::Error`, or a panic (with a site label). -/
inductive Outcome (α : Type) where
  | ok (a : α)
  | error (e : Err)
  | panic (site : String)
  deriving Repr, DecidableEq

namespace Outcome
def bind {α β} (x : Outcome α) (f : α → Outcome β) : Outcome β :=
  match x with
  | .ok a => f a
  | .error e => .error e
  | .panic s => .panic s
instance : Monad Outcome where
  pure := .ok
  bind := Outcome.bind
def isOk {α} : Outcome α → Bool | .ok _ => true | _ => false
def isPanic {α} : Outcome α → Bool | .panic _ => true | _ => false
def isError {α} : Outcome α → Bool | .error _ => true | _ => false
def map' {α β} (f : α → β) : Outcome α → Outcome β
  | .ok a => .ok (f a) | .error e => .error e | .panic s => .panic s
@[simp] theorem bind_ok {α β} (a : α) (f : α → Outcome β) : (Outcome.ok a >>= f) = f a := rfl
@[simp] theorem bind_error {α β} (e : Err) (f : α → Outcome β) : (Outcome.error e >>= f) = .error e := rfl
@[simp] theorem bind_panic {α β} (s : String) (f : α → Outcome β) : (Outcome.panic s >>= f) = .panic s := rfl
@[simp] theorem pure_eq {α} (a : α) : (pure a : Outcome α) = .ok a := rfl
end Outcome

/-- Big-endian encoding of `n mod 256^k` on `k` bytes (`uN::to_be_bytes` after an `as uN` cast). -/
def beN : Nat → Nat → Bytes
  | 0, _ => []
  | k+1, n => beN k (n / 256) ++ [UInt8.ofNat (n % 256)]

def be16 (n : Nat) : Bytes := beN 2 n
def be32 (n : Nat) : Bytes := beN 4 n
def be64 (n : Nat) : Bytes := beN 8 n
def be128 (n : Nat) : Bytes := beN 16 n

/-- Big-endian decoding (`uN::from_be_bytes`). -/
def fromBe (bs : Bytes) : Nat := bs.foldl (fun a b => a * 256 + b.toNat) 0

/-- `split_at_checked`: `none` when `n > bs.length`. -/
def splitAt? (bs : Bytes) (n : Nat) : Option (Bytes × Bytes) :=
  if n ≤ bs.length then some (bs.take n, bs.drop n) else none

/-- Lower-case hex rendering, used by the driver protocol. -/
def hexDigit (n : Nat) : Char :=
  if n < 10 then Char.ofNat (48 + n) else Char.ofNat (87 + n)

def toHex (bs : Bytes) : String :=
  String.ofList (bs.flatMap fun b => [hexDigit (b.toNat / 16), hexDigit (b.toNat % 16)])

def hexVal (c : Char) : Option Nat :=
  if '0' ≤ c ∧ c ≤ '9' then some (c.toNat - 48)
  else if 'a' ≤ c ∧ c ≤ 'f' then some (c.toNat - 87)
  else if 'A' ≤ c ∧ c ≤ 'F' then some (c.toNat - 55)
  else none

def ofHexChars : List Char → Option Bytes
  | [] => some []
  | [_] => none
  | a :: b :: rest => do
    let x ← hexVal a
    let y ← hexVal b
    let r ← ofHexChars rest
    pure (UInt8.ofNat (x * 16 + y) :: r)

/-- `-` denotes the empty byte string on the wire. -/
def ofHex (s : String) : Option Bytes :=
  if s == "-" then some [] else ofHexChars s.toList

def toHexW (bs : Bytes) : String := if bs.isEmpty then "-" else toHex bs

end Pna
