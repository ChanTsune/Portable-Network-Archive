import PnaVerif.Model.Cli.Edit
import PnaVerif.Model.Cli.Text
/-
  Access-control chunks of an entry and `pna experimental migrate` (cli/src/ext.rs `NormalEntryExt::acl`,
  cli/src/command/migrate.rs `strip_entry_metadata`).

  An entry's ACLs are private chunks among its `extras`: `faCl` carries a platform name and sets the platform of the
  `faCe` chunks that follow; `faCe` carries one access-control entry as text, with or without its own platform prefix.
  `acl()` collects them into an `IndexMap` (after the `fix:` — it was a `HashMap`, whose iteration order changed from run
  to run): platforms in the order of their first occurrence, each with its entries in order.  `migrate` writes them back
  grouped — `faCl platform`, then one `faCe` per entry WITHOUT a platform prefix — in front of the other private chunks,
  which keep their order.
-/
namespace Pna.Cli
open Text

def decodeUtf8 (b : Bytes) : Option Str := (String.fromUTF8? (ByteArray.mk b.toArray)).map String.toList

abbrev AclMap := List (Str × List Ace)

/-- `acls.entry(k).or_insert_with(Vec::new).push(a)` on an `IndexMap` -/
def aclInsert (m : AclMap) (k : Str) (a : Ace) : AclMap :=
  if m.any (·.1 == k) then m.map (fun p => if p.1 == k then (p.1, p.2 ++ [a]) else p) else m ++ [(k, [a])]

/-- `NormalEntryExt::acl`: `none` = an `io::Error` (a platform name or an entry that is not UTF-8, or an entry that
    does not parse) -/
def aclOf : Str → AclMap → List (Bytes × Bytes) → Option AclMap
  | _, m, [] => some m
  | cur, m, (t, d) :: rest =>
    if t = faCl then
      match decodeUtf8 d with
      | some p => aclOf p m rest
      | none => none
    else if t = faCe then
      match decodeUtf8 d with
      | none => none
      | some s =>
        match parseAceP s with
        | .ok (p, a) => aclOf cur (aclInsert m (p.getD cur) a) rest
        | .error _ => none
    else aclOf cur m rest

def isAclChunk (x : Bytes × Bytes) : Bool := x.1 == faCl || x.1 == faCe

/-- the chunks `migrate` (and `acl set`) write for a collected map -/
def aclChunks (m : AclMap) : List (Bytes × Bytes) :=
  m.flatMap fun (p, aces) => (faCl, utf8 p) :: aces.map fun a => (faCe, utf8 (showAce a))

/-- `migrate` on one entry: `none` = the command fails -/
def migrateE (e : LEntry) : Option LEntry :=
  (aclOf [] [] e.extras).map fun m => { e with extras := aclChunks m ++ e.extras.filter (fun x => !isAclChunk x) }

/-- the transformer handed to the strategy (applies to every entry); a failing entry fails the whole command, which
    the caller tests first (`(entriesOf a).all fun e => (migrateE e).isSome`, Model/Cli/Wire.lean) -/
def migrateF (e : LEntry) : Option LEntry := some ((migrateE e).getD e)

end Pna.Cli

namespace Pna.Cli
open Text

/-- an `-m` / `-x` argument of `pna experimental acl set` after parsing (`AclEntries`): the `default` keyword, the owner,
    and the text after the owner (`none` = no third field) -/
structure AclArg where
  dflt : Bool
  owner : Text.Owner
  perms : Option Str
  deriving DecidableEq, Repr

/-- `AclEntries::is_match`: the DEFAULT flag (first row of the flag table) and the owner decide -/
def AclArg.isMatch (x : AclArg) (a : Ace) : Bool := (x.dflt == a.flags.headD false) && (x.owner == a.owner)

/-- `AclEntries::to_ace` -/
def AclArg.toAce (x : AclArg) : Ace :=
  { flags := flagTable.map (fun row => x.dflt && row.1 == 1), owner := x.owner, allow := true,
    perms := parseSet permTable (x.perms.getD []) }

/-- `acl.iter_mut().find(is_match)`: the first matching entry gets the new permission -/
def modifyFirst (x : AclArg) : List Ace → List Ace
  | [] => []
  | a :: rest => if x.isMatch a then { a with perms := x.toAce.perms } :: rest else a :: modifyFirst x rest

/-- `transform_entry` of `acl set` on a selected entry: only the General platform's list (the platform named `""`) is
    edited; an entry without one — or whose chunks do not parse (`unwrap_or_default`) — is handed on as it is -/
def aclSetE (modify remove : Option AclArg) (e : LEntry) : LEntry :=
  let m := (aclOf [] [] e.extras).getD []
  if !(m.any (·.1 == [])) then e
  else
    let upd := fun (acl : List Ace) =>
      let acl := match modify with
        | some x => if acl.any x.isMatch then modifyFirst x acl else acl ++ [x.toAce]
        | none => acl
      match remove with
      | some x => acl.filter (fun a => !x.isMatch a)
      | none => acl
    let m2 := m.map (fun p => if p.1 == [] then (p.1, upd p.2) else p)
    { e with extras := aclChunks m2 ++ e.extras.filter (fun x => !isAclChunk x) }

def aclSetF (sel : Bytes → Bool) (modify remove : Option AclArg) (e : LEntry) : Option LEntry :=
  if sel e.name then some (aclSetE modify remove e) else some e

end Pna.Cli
