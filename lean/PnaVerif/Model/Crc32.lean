import PnaVerif.Model.Bytes
/-
  Bit-exact model of CRC-32 (IEEE 802.3, reflected, polynomial 0xEDB88320), the function
  `crc32fast::Hasher` computes.  Cross-checked against `Chunk::crc()` by the `crc` op family.
-/
namespace Pna.Crc32

def poly : BitVec 32 := 0xEDB88320#32

/-- One shift of the reflected LFSR. -/
def bitStep (c : BitVec 32) : BitVec 32 :=
  if c.getLsbD 0 then (c >>> 1) ^^^ poly else c >>> 1

/-- Inverse of `bitStep`: the polynomial has bit 31 set, so bit 31 of the result tells
    whether the shifted-out bit was 1. -/
def bitUnstep (c : BitVec 32) : BitVec 32 :=
  if c.getLsbD 31 then ((c ^^^ poly) <<< 1) ||| 1#32 else c <<< 1

def byteStep (c : BitVec 32) (b : UInt8) : BitVec 32 :=
  bitStep (bitStep (bitStep (bitStep (bitStep (bitStep (bitStep (bitStep
    (c ^^^ (BitVec.ofNat 32 b.toNat)))))))))

def update (c : BitVec 32) (bs : Bytes) : BitVec 32 := bs.foldl byteStep c

def init : BitVec 32 := 0xFFFFFFFF#32

def finalize (c : BitVec 32) : BitVec 32 := ~~~ c

/-- CRC-32 of a byte string, as a natural number `< 2^32`. -/
def crc32 (bs : Bytes) : Nat := (finalize (update init bs)).toNat

end Pna.Crc32
