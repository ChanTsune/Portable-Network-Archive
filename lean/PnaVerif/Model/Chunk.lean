import PnaVerif.Model.Crc32
/-
  Chunk framing: length(4, BE) | type(4) | data | crc32(type ++ data)(4, BE).
  Two parser transcriptions:
    * `decodeStream`  — `ChunkReader::read_chunk`   (lib/src/chunk/read.rs, `read_exact` semantics)
    * `decodeSlice`   — `read_chunk_from_slice`     (lib/src/chunk/read.rs, `split_first_chunk` / split)
  and the two chunk iterators of lib/src/chunk.rs.
-/
namespace Pna

structure ChunkType where
  b0 : UInt8
  b1 : UInt8
  b2 : UInt8
  b3 : UInt8
  deriving DecidableEq, Repr, Inhabited

namespace ChunkType
def toBytes (t : ChunkType) : Bytes := [t.b0, t.b1, t.b2, t.b3]
def ofAscii (a b c d : Char) : ChunkType :=
  ⟨UInt8.ofNat a.toNat, UInt8.ofNat b.toNat, UInt8.ofNat c.toNat, UInt8.ofNat d.toNat⟩
def AHED := ofAscii 'A' 'H' 'E' 'D'
def AEND := ofAscii 'A' 'E' 'N' 'D'
def ANXT := ofAscii 'A' 'N' 'X' 'T'
def FHED := ofAscii 'F' 'H' 'E' 'D'
def PHSF := ofAscii 'P' 'H' 'S' 'F'
def FDAT := ofAscii 'F' 'D' 'A' 'T'
def FEND := ofAscii 'F' 'E' 'N' 'D'
def SHED := ofAscii 'S' 'H' 'E' 'D'
def SDAT := ofAscii 'S' 'D' 'A' 'T'
def SEND := ofAscii 'S' 'E' 'N' 'D'
def fSIZ := ofAscii 'f' 'S' 'I' 'Z'
def cTIM := ofAscii 'c' 'T' 'I' 'M'
def mTIM := ofAscii 'm' 'T' 'I' 'M'
def aTIM := ofAscii 'a' 'T' 'I' 'M'
def fPRM := ofAscii 'f' 'P' 'R' 'M'
def xATR := ofAscii 'x' 'A' 'T' 'R'

def ofBytes? : Bytes → Option ChunkType
  | [a, b, c, d] => some ⟨a, b, c, d⟩
  | _ => none

/-- property bits (lib/src/chunk/types.rs) -/
def isCritical (t : ChunkType) : Bool := t.b0 &&& 32 == 0
def isPrivate (t : ChunkType) : Bool := t.b1 &&& 32 != 0
def isSetReserved (t : ChunkType) : Bool := t.b2 &&& 32 != 0
def isSafeToCopy (t : ChunkType) : Bool := t.b3 &&& 32 != 0

def isAsciiAlpha (b : UInt8) : Bool := (65 ≤ b && b ≤ 90) || (97 ≤ b && b ≤ 122)
def isAsciiLower (b : UInt8) : Bool := 97 ≤ b && b ≤ 122
def isAsciiUpper (b : UInt8) : Bool := 65 ≤ b && b ≤ 90

inductive TypeError | nonAsciiAlphabetic | nonPrivate | reserved
  deriving DecidableEq, Repr

/-- `ChunkType::private` -/
def mkPrivate (t : ChunkType) : Except TypeError ChunkType :=
  if !(isAsciiAlpha t.b0 && isAsciiAlpha t.b1 && isAsciiAlpha t.b2 && isAsciiAlpha t.b3) then
    .error .nonAsciiAlphabetic
  else if !isAsciiLower t.b1 then .error .nonPrivate
  else if !isAsciiUpper t.b2 then .error .reserved
  else .ok t

def isStream (t : ChunkType) : Bool := t == FDAT || t == SDAT
end ChunkType

structure Chunk where
  ty : ChunkType
  data : Bytes
  deriving DecidableEq, Repr, Inhabited

namespace Chunk

/-- CRC over type and data (`Chunk::crc`). -/
def crc (c : Chunk) : Nat := Crc32.crc32 (c.ty.toBytes ++ c.data)

/-- `MIN_CHUNK_BYTES_SIZE` -/
def minBytes : Nat := 12

/-- `ChunkExt::bytes_len` -/
def bytesLen (c : Chunk) : Nat := minBytes + c.data.length

def isStream (c : Chunk) : Bool := c.ty.isStream

/-- `ChunkExt::write_chunk_in` / `to_bytes`.  `length()` is `data.len() as u32`: the model
    narrows at the same place (`be32` reduces mod 2^32). -/
def encode (c : Chunk) : Bytes :=
  be32 c.data.length ++ c.ty.toBytes ++ c.data ++ be32 c.crc

end Chunk

/-- `read_exact` on an in-memory stream: `n` bytes or `UnexpectedEof`. -/
def readExact (n : Nat) (bs : Bytes) : Outcome (Bytes × Bytes) :=
  if bs.length < n then .error .eof else .ok (bs.take n, bs.drop n)

/-- `ChunkReader::read_chunk` -/
def decodeStream (bs : Bytes) : Outcome (Chunk × Bytes) := do
  let (lenB, r) ← readExact 4 bs
  let len := fromBe lenB
  let (tyB, r) ← readExact 4 r
  let (data, r) ← readExact len r
  let (crcB, r) ← readExact 4 r
  match ChunkType.ofBytes? tyB with
  | none => .panic "unreachable: type has 4 bytes"
  | some ty =>
    let c : Chunk := ⟨ty, data⟩
    if fromBe crcB ≠ c.crc then .error .invalidData else .ok (c, r)

/-- `<[u8]>::split_first_chunk::<N>` -/
def splitFirstChunk (n : Nat) (bs : Bytes) : Option (Bytes × Bytes) :=
  if n ≤ bs.length then some (bs.take n, bs.drop n) else none

/-- `split_at_checked(n).ok_or(UnexpectedEof)` — the slice parser's payload cut after the
    `fix:` commit that replaced the panicking `split_at`. -/
def splitPayload (bs : Bytes) (n : Nat) : Outcome (Bytes × Bytes) :=
  if n ≤ bs.length then .ok (bs.take n, bs.drop n) else .error .eof

/-- `read_chunk_from_slice` -/
def decodeSlice (bs : Bytes) : Outcome (Chunk × Bytes) :=
  match splitFirstChunk 4 bs with
  | none => .error .eof
  | some (lenB, r) =>
    let len := fromBe lenB
    match splitFirstChunk 4 r with
    | none => .error .eof
    | some (tyB, r) =>
      match splitPayload r len with
      | .error e => .error e
      | .panic s => .panic s
      | .ok (data, r) =>
        match splitFirstChunk 4 r with
        | none => .error .eof
        | some (crcB, r) =>
          match ChunkType.ofBytes? tyB with
          | none => .panic "unreachable: type has 4 bytes"
          | some ty =>
            let c : Chunk := ⟨ty, data⟩
            if fromBe crcB ≠ c.crc then .error .invalidData else .ok (c, r)

/-- PNA signature `\x89PNA\r\n\x1a\n` -/
def signature : Bytes := [0x89, 0x50, 0x4E, 0x41, 0x0D, 0x0A, 0x1A, 0x0A]

/-- `read_pna_header` (stream) -/
def readSigStream (bs : Bytes) : Outcome Bytes := do
  let (h, r) ← readExact 8 bs
  if h ≠ signature then .error .invalidData else .ok r

/-- `read_header_from_slice` -/
def readSigSlice (bs : Bytes) : Outcome Bytes :=
  match splitPayload bs 8 with
  | .error e => .error e
  | .panic s => .panic s
  | .ok (h, r) => if h ≠ signature then .error .invalidData else .ok r

/-- Items of a chunk iterator, until it returns `None`: the chunks and how iteration ended.
    `fuel` bounds the recursion structurally; `bs.length` always suffices (each chunk consumes
    at least 12 bytes) — see `chunkIter_fuel` in `Lemmas/ArchiveRt.lean`. -/
def chunkIter (dec : Bytes → Outcome (Chunk × Bytes)) : Nat → Bytes → List Chunk × Outcome Unit
  | 0, _ => ([], .panic "fuel")
  | fuel+1, bs =>
    match dec bs with
    | .error e => ([], .error e)
    | .panic s => ([], .panic s)
    | .ok (c, r) =>
      if c.ty = ChunkType.AEND then ([c], .ok ())
      else
        let (cs, o) := chunkIter dec fuel r
        (c :: cs, o)

/-- `read_as_chunks`: collected up to and including the first `Err` (callers stop there). -/
def chunksStream (bs : Bytes) : List Chunk × Outcome Unit :=
  match readSigStream bs with
  | .error e => ([], .error e)
  | .panic s => ([], .panic s)
  | .ok r => chunkIter decodeStream (r.length + 1) r

/-- `read_chunks_from_slice` -/
def chunksSlice (bs : Bytes) : List Chunk × Outcome Unit :=
  match readSigSlice bs with
  | .error e => ([], .error e)
  | .panic s => ([], .panic s)
  | .ok r => chunkIter decodeSlice (r.length + 1) r

end Pna
